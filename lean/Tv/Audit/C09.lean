import Tv.Thm.C09
import Tv.Thm.C09Gen
#print axioms Tv.C09.shiftCore_exact
#print axioms Tv.C09.shift_exact
#print axioms Tv.C09.vshift_exact
#print axioms Tv.C09.mapLike_exact
#print axioms Tv.C09.vclip_exact
#print axioms Tv.C09.bfill_exact
#print axioms Tv.C09.vcut_exact
#print axioms Tv.C09.vdiff_exact
#print axioms Tv.C09.vpctChange_exact
#print axioms Tv.C09.vargPartition_exact
#print axioms Tv.C09.vpartition_exact
#print axioms Tv.C09.winsorize_exact
#print axioms Tv.C09.rollingCustomIter_exact
#print axioms Tv.C09.linspace_exact
#print axioms Tv.C09.range_exact
#print axioms Tv.C09.src_exact
#print axioms Tv.C09.deop_exact
#print axioms Tv.C09.pipeline_exact
#print axioms Tv.C09.pipeline_total
#print axioms Tv.C09.collect_exact
#print axioms Tv.C09.pipeline_collect
#print axioms Tv.C09.collect_ok_iff
#print axioms Tv.C09.shiftlike_len
#print axioms Tv.C09.trustIter_pinned_wrong
#print axioms Tv.C09.trustIter_pinned_uninit
#print axioms Tv.C09.shift_pinned_wrong
#print axioms Tv.C09.shift_pinned_overflow
#print axioms Tv.C09.shift_pinned_panics
#print axioms Tv.C09.ofList_exact
#print axioms Tv.C09.repeatN_exact
#print axioms Tv.C09.map_exact
#print axioms Tv.C09.rev_exact
#print axioms Tv.C09.chain_exact
#print axioms Tv.C09.take_exact
#print axioms Tv.C09.skip_exact
#print axioms Tv.C09.zipWith_exact
#print axioms Tv.C09.trust_exact
#print axioms Tv.C09.linspaceIt_exact
#print axioms Tv.C09.pipeline_len_spec
#print axioms Tv.C09.trustTable_matches
#print axioms Tv.C09.trustIter_matches
#print axioms Tv.C09.scan_pinned_wrong
#print axioms Tv.C09.range_count
#print axioms Tv.C09.src_len_spec
#print axioms Tv.C09Gen.mapSt_length
#print axioms Tv.C09Gen.shift_trusted
#print axioms Tv.C09Gen.shift_announced
#print axioms Tv.C09Gen.vshift_trusted
#print axioms Tv.C09Gen.vshift_announced
#print axioms Tv.C09Gen.vdiff_trusted
#print axioms Tv.C09Gen.vdiff_announced
#print axioms Tv.C09Gen.vpct_change_trusted
#print axioms Tv.C09Gen.vpct_change_announced
#print axioms Tv.C09Gen.vclip_trusted
#print axioms Tv.C09Gen.vclip_announced
#print axioms Tv.C09Gen.fill_mask_trusted
#print axioms Tv.C09Gen.fill_trusted
#print axioms Tv.C09Gen.ffill_mask_trusted
#print axioms Tv.C09Gen.ffill_trusted
#print axioms Tv.C09Gen.bfill_mask_trusted
#print axioms Tv.C09Gen.bfill_mask_announced
#print axioms Tv.C09Gen.bfill_trusted
#print axioms Tv.C09Gen.abs_trusted
#print axioms Tv.C09Gen.vabs_trusted
#print axioms Tv.C09Gen.vcut_trusted
#print axioms Tv.C09Gen.announced_present
