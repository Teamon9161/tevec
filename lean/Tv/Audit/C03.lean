import Tv.Thm.C03
import Tv.Thm.C03Gen
#print axioms Tv.C03.vmin_exact
#print axioms Tv.C03.vmax_exact
#print axioms Tv.C03.vargmin_exact
#print axioms Tv.C03.vargmax_exact
#print axioms Tv.C03.vrank_exact
#print axioms Tv.C03.vminmaxnorm_exact
#print axioms Tv.C03.vzscore_exact
#print axioms Tv.C03.least_is_min
#print axioms Tv.C03.greatest_is_max
#print axioms Tv.C03.least_none_iff
#print axioms Tv.C03.vmin_le_vmax
#print axioms Tv.C03.lastPos_is_most_recent
#print axioms Tv.C03.avgRank_asc_add_desc
#print axioms Tv.C03.cached_min_unique
#print axioms Tv.C03.cached_max_unique
#print axioms Tv.C03.cached_min_is_least
#print axioms Tv.C03.cached_max_is_greatest
#print axioms Tv.C03.cached_min_invariant
#print axioms Tv.C03.rescan_reestablishes
#print axioms Tv.C03.vrank_unwrap_safe
#print axioms Tv.C03.vargmin_pinned_wrong
#print axioms Tv.C03.vargmax_pinned_wrong
#print axioms Tv.C03.maskTable_matches
#print axioms Tv.C03.eps_matches
#print axioms Tv.C03Gen.ts_vzscore_minPeriods
#print axioms Tv.C03Gen.ts_vzscore_exact
#print axioms Tv.C03Gen.closures_present
#print axioms Tv.C03Gen.ts_vmin_minPeriods
#print axioms Tv.C03Gen.ts_vmin_window
#print axioms Tv.C03Gen.ts_vmin_exact
#print axioms Tv.C03Gen.ts_vmax_minPeriods
#print axioms Tv.C03Gen.ts_vmax_window
#print axioms Tv.C03Gen.ts_vmax_exact
#print axioms Tv.C03Gen.ts_vargmin_minPeriods
#print axioms Tv.C03Gen.ts_vargmin_window
#print axioms Tv.C03Gen.ts_vargmin_exact
#print axioms Tv.C03Gen.ts_vargmax_step
#print axioms Tv.C03Gen.ts_vargmax_minPeriods
#print axioms Tv.C03Gen.ts_vargmax_window
#print axioms Tv.C03Gen.ts_vargmax_exact
#print axioms Tv.C03Gen.cmp_closures_present
#print axioms Tv.C03Gen.ts_vrank_step
#print axioms Tv.C03Gen.ts_vrank_minPeriods
#print axioms Tv.C03Gen.ts_vrank_window
#print axioms Tv.C03Gen.ts_vrank_exact
#print axioms Tv.C03Gen.ts_vzscore_from_source
#print axioms Tv.C03Gen.ts_vmin_from_source
#print axioms Tv.C03Gen.ts_vmax_from_source
#print axioms Tv.C03Gen.ts_vargmin_from_source
#print axioms Tv.C03Gen.ts_vargmax_from_source
#print axioms Tv.C03Gen.ts_vrank_from_source
#print axioms Tv.C03Gen.ts_vminmaxnorm_step
#print axioms Tv.C03Gen.ts_vminmaxnorm_minPeriods
#print axioms Tv.C03Gen.ts_vminmaxnorm_exact
#print axioms Tv.C03Gen.ts_vminmaxnorm_from_source
#print axioms Tv.C03Gen.norm_closures_present
