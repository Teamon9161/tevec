import Tv.Thm.C04
import Tv.Thm.C04Gen
#print axioms Tv.C04.vcov_exact
#print axioms Tv.C04.vcorr_exact
#print axioms Tv.C04.vregx_alpha_exact
#print axioms Tv.C04.vregx_beta_exact
#print axioms Tv.C04.vregx_all_exact
#print axioms Tv.C04.vregx_resid_mean_exact
#print axioms Tv.C04.vregx_resid_std_exact
#print axioms Tv.C04.vregx_resid_skew_exact
#print axioms Tv.C04.vreg_exact
#print axioms Tv.C04.vtsf_exact
#print axioms Tv.C04.vreg_slope_exact
#print axioms Tv.C04.vreg_intercept_exact
#print axioms Tv.C04.vreg_resid_mean_exact
#print axioms Tv.C04.vreg_resid_mean_pinned_wrong
#print axioms Tv.C04.vcov_pinned_panics
#print axioms Tv.C04.perfect_line_zero_resid
#print axioms Tv.C04.perfect_line_zero_resid_model
#print axioms Tv.C04.perfect_trend_zero_resid
#print axioms Tv.C04.ols_minimises
#print axioms Tv.C04.cross_sum_centered
#print axioms Tv.C04.normal_eq_beta
#print axioms Tv.C04.normal_eq_alpha
#print axioms Tv.C04.sse_identity
#print axioms Tv.C04.sum_t
#print axioms Tv.C04.sum_tt
#print axioms Tv.C04.cross_run
#print axioms Tv.C04.trend_run
#print axioms Tv.C04.resid_run
#print axioms Tv.C04.maskTable_matches
#print axioms Tv.C04Gen.ts_vcov_minPeriods
#print axioms Tv.C04Gen.ts_vcov_exact
#print axioms Tv.C04Gen.ts_vcorr_minPeriods
#print axioms Tv.C04Gen.ts_vcorr_exact
#print axioms Tv.C04Gen.ts_vregx_alpha_minPeriods
#print axioms Tv.C04Gen.ts_vregx_alpha_exact
#print axioms Tv.C04Gen.ts_vregx_beta_minPeriods
#print axioms Tv.C04Gen.ts_vregx_beta_exact
#print axioms Tv.C04Gen.ts_vregx_all_step
#print axioms Tv.C04Gen.ts_vregx_all_minPeriods
#print axioms Tv.C04Gen.ts_vregx_all_exact
#print axioms Tv.C04Gen.ts_vreg_minPeriods
#print axioms Tv.C04Gen.ts_vreg_exact
#print axioms Tv.C04Gen.ts_vtsf_minPeriods
#print axioms Tv.C04Gen.ts_vtsf_exact
#print axioms Tv.C04Gen.ts_vreg_slope_minPeriods
#print axioms Tv.C04Gen.ts_vreg_slope_exact
#print axioms Tv.C04Gen.ts_vreg_intercept_minPeriods
#print axioms Tv.C04Gen.ts_vreg_intercept_exact
#print axioms Tv.C04Gen.ts_vreg_resid_mean_minPeriods
#print axioms Tv.C04Gen.ts_vreg_resid_mean_exact
#print axioms Tv.C04Gen.closures_present
#print axioms Tv.C04Gen.ts_vregx_resid_mean_mask
#print axioms Tv.C04Gen.ts_vregx_resid_std_mask
#print axioms Tv.C04Gen.ts_vregx_resid_skew_mask
#print axioms Tv.C04Gen.ts_vcov_from_source
#print axioms Tv.C04Gen.ts_vcorr_from_source
#print axioms Tv.C04Gen.ts_vregx_alpha_from_source
#print axioms Tv.C04Gen.ts_vregx_beta_from_source
#print axioms Tv.C04Gen.ts_vregx_all_from_source
#print axioms Tv.C04Gen.ts_vreg_from_source
#print axioms Tv.C04Gen.ts_vtsf_from_source
#print axioms Tv.C04Gen.ts_vreg_slope_from_source
#print axioms Tv.C04Gen.ts_vreg_intercept_from_source
#print axioms Tv.C04Gen.ts_vreg_resid_mean_from_source
#print axioms Tv.C04Gen.vmean_resid
#print axioms Tv.C04Gen.vstd_resid
#print axioms Tv.C04Gen.vskew_resid
#print axioms Tv.C04Gen.ts_vregx_resid_mean_minPeriods
#print axioms Tv.C04Gen.ts_vregx_resid_std_minPeriods
#print axioms Tv.C04Gen.ts_vregx_resid_skew_minPeriods
#print axioms Tv.C04Gen.ts_vregx_resid_mean_exact
#print axioms Tv.C04Gen.ts_vregx_resid_std_exact
#print axioms Tv.C04Gen.ts_vregx_resid_skew_exact
#print axioms Tv.C04Gen.ts_vregx_resid_mean_from_source
#print axioms Tv.C04Gen.ts_vregx_resid_std_from_source
#print axioms Tv.C04Gen.ts_vregx_resid_skew_from_source
#print axioms Tv.C04Gen.resid_closures_present
