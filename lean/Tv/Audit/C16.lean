import Tv.Thm.C16
#print axioms Tv.C16.unitTable_matches
#print axioms Tv.C16.natGuards_matches
#print axioms Tv.C16.intoUnit_nat
#print axioms Tv.C16.castUnit_nat
#print axioms Tv.C16.nat_optI64
#print axioms Tv.C16.optI64_valid
#print axioms Tv.C16.fromOpt_intoOpt
#print axioms Tv.C16.nat_asCr
#print axioms Tv.C16.nat_fields
#print axioms Tv.C16.fromOptCr_none
#print axioms Tv.C16.intoUnit_floor
#print axioms Tv.C16.intoUnit_overflow
#print axioms Tv.C16.intoUnit_coarser_total
#print axioms Tv.C16.castUnit_eq
#print axioms Tv.C16.intoUnit_valid
#print axioms Tv.C16.intoUnit_same
#print axioms Tv.C16.intoUnit_coarser_compose
#print axioms Tv.C16.same_instant
#print axioms Tv.C16.same_instant_unique
#print axioms Tv.C16.finer_then_back
#print axioms Tv.C16.intoUnit_mono
#print axioms Tv.C16.intoUnit_eq_spec
#print axioms Tv.C16.crRange_is_calendar
#print axioms Tv.C16.asCr_ns_total
#print axioms Tv.C16.asCr_valid
#print axioms Tv.C16.cr_roundtrip
#print axioms Tv.C16.fromCr_floor
#print axioms Tv.C16.fromCr_total
#print axioms Tv.C16.cr_roundtrip_floor
#print axioms Tv.C16.nat_absorbs_dt_shift
#print axioms Tv.C16.nat_absorbs_dt_add
#print axioms Tv.C16.nat_absorbs_dt_sub
#print axioms Tv.C16.nat_absorbs_dt_diff
#print axioms Tv.C16.nat_absorbs_td_neg
#print axioms Tv.C16.nat_absorbs_td_add
#print axioms Tv.C16.nat_absorbs_td_sub
#print axioms Tv.C16.nat_absorbs_td_mul
#print axioms Tv.C16.nat_absorbs_time_shift
#print axioms Tv.C16.nat_absorbs_time_add
#print axioms Tv.C16.nat_absorbs_time_sub
#print axioms Tv.C16.nat_time_asCr
#print axioms Tv.C16.asCr_eq_spec
#print axioms Tv.C16.fromCr_outcome
#print axioms Tv.C16.dtShift_eq_spec
#print axioms Tv.C16.dtDiff_eq_spec
#print axioms Tv.C16.tdAdd_eq_spec
#print axioms Tv.C16.tdSub_eq_spec
#print axioms Tv.C16.tdMul_eq_spec
#print axioms Tv.C16.tdNeg_eq_spec
#print axioms Tv.C16.timeShift_eq_spec
#print axioms Tv.C16.intoUnit_nat_pinned_wrong
#print axioms Tv.C16.intoUnit_trunc_pinned_wrong
#print axioms Tv.C16.time_shift_pinned_wrong
#print axioms Tv.C16.calendar_roundtrip
#print axioms Tv.C16.civilFromDays_injective
#print axioms Tv.C16.calendar_roundtrip_date
#print axioms Tv.C16.daysFromCivil_injective
