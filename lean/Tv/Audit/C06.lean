import Tv.Thm.C06
import Tv.Thm.C06Gen
#print axioms Tv.C06.feat_prefix
#print axioms Tv.C06.feat_prewindow
#print axioms Tv.windowed_prefix
#print axioms Tv.window_congr
#print axioms Tv.C06.prefix_of_windowed
#print axioms Tv.C06.local_of_windowed
#print axioms Tv.C06.c03_cmp_prefix
#print axioms Tv.C06.c03_vmin_prefix_none
#print axioms Tv.C06.c03_norm_prefix
#print axioms Tv.C06.c03_prewindow
#print axioms Tv.C06.zip_take
#print axioms Tv.C06.zip_getElem?_congr
#print axioms Tv.C06.rolling1_prefix
#print axioms Tv.C06.rolling2_prefix
#print axioms Tv.C06.rolling1_local
#print axioms Tv.C06.rolling2_local
#print axioms Tv.C06.c04_prefix
#print axioms Tv.C06.c04_all_prefix
#print axioms Tv.C06.c04_prewindow
#print axioms Tv.C06Gen.prefix_of_agree
#print axioms Tv.C06Gen.local_of_agree
#print axioms Tv.C06Gen.ts_vsum_gen_prefix
#print axioms Tv.C06Gen.ts_vstd_gen_prefix
#print axioms Tv.C06Gen.ts_vsum_gen_prewindow
#print axioms Tv.C06Gen.ts_vmin_gen_prefix
#print axioms Tv.C06Gen.ts_vmax_gen_prefix
#print axioms Tv.C06Gen.ts_vargmin_gen_prefix
#print axioms Tv.C06Gen.ts_vargmax_gen_prefix
#print axioms Tv.C06Gen.ts_vrank_gen_prefix
#print axioms Tv.C06Gen.ts_vmax_gen_prewindow
#print axioms Tv.C06Gen.ts_vmin_gen_prewindow
#print axioms Tv.C06Gen.ts_vzscore_gen_prefix
#print axioms Tv.C06Gen.ts_vminmaxnorm_gen_prefix
#print axioms Tv.C06Gen.closures_in_scope
