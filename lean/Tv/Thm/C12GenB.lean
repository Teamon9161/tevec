import Tv.GenRank
import Tv.Thm.C12GenA
/-!
# C12 — `vrank` regenerated from tea-map/src/vec_map.rs is the model's

`Tv.GenRank.vrank.run` (translator/ranks.py) is the imperative body of `vrank` in source order:
argsort through the abstract `S.sort`, the run-length loop with `break` as `Gen.forBreak` over the
tuple `(out, repeat_num, nan_flag, cur_rank, sum_rank, idx)`, the inner write loops, the two
finishing loops, both copies (`pct` or not), the output buffer as a list of write-once slots.
`vrank_eq` proves it equal to `Tv.C12.vrank` (slot by slot, ranks read as floats by `outToF`) for
every sort `S`, series, `pct` and `rev`; with it the average-rank theorem of `Thm/C12.lean` is a
theorem about the code in the tree.
-/
namespace Tv.C12GenB
open Tv Tv.C12 Tv.Gen

/-- a rank of the model read as the float the code writes (`a / 0` is Lean's `0`: never reached,
the denominators are `repeat_num ≥ 1` and `not_none_count ≥ 1`) -/
def outToF : Out → Option Rat
  | .null => none
  | .val q => some q
  | .degen => some 0
  | .root _ _ => some 0

def outMap (l : List (Option Out)) : List (Option (Option Rat)) := l.map (Option.map outToF)

theorem outToF_div (a b : Rat) : outToF (Out.div a b) = some (a / b) := by
  unfold Out.div
  by_cases h : b = 0
  · simp [h, outToF]
  · simp [h, outToF]

theorem outToF_val (q : Rat) : outToF (.val q) = some q := rfl
theorem outToF_null : outToF .null = none := rfl

theorem outMap_set (l : List (Option Out)) (j : Nat) (v : Out) :
    outMap (l.set j (some v)) = (outMap l).set j (some (outToF v)) := by
  simp [outMap, List.map_set]

theorem outMap_replicate_none (n : Nat) :
    outMap (List.replicate n none) = List.replicate n (none : Option (Option Rat)) := by
  simp [outMap]

theorem forBreak_nil {σ ι : Type} (body : σ → ι → σ × Bool) (s : σ) : forBreak [] body s = s := rfl

theorem foldl_stopped {σ ι : Type} (body : σ → ι → σ × Bool) (l : List ι) (s : σ) :
    l.foldl (fun (p : σ × Bool) i => if p.2 then p else body p.1 i) (s, true) = (s, true) := by
  induction l with
  | nil => rfl
  | cons a l ih => simpa using ih

theorem forBreak_cons {σ ι : Type} (body : σ → ι → σ × Bool) (a : ι) (l : List ι) (s : σ) :
    forBreak (a :: l) body s = if (body s a).2 then (body s a).1 else forBreak l body (body s a).1 := by
  unfold forBreak
  simp only [List.foldl_cons, Bool.false_eq_true, if_false]
  rcases hb : body s a with ⟨s', b⟩
  cases b
  · simp
  · simp [foldl_stopped]

theorem forBreak_nobreak {σ ι : Type} (body : σ → ι → σ × Bool) (g : σ → ι → σ)
    (h : ∀ s i, body s i = (g s i, false)) (l : List ι) (s : σ) :
    forBreak l body s = l.foldl g s := by
  induction l generalizing s with
  | nil => rfl
  | cons a l ih => rw [forBreak_cons, h]; simp [ih]

/-! ### the inner write loop `for j in 0..repeat_num { out.uset(idx_sorted.uget(i - j), v) }` -/

def writeRunG (s : List Nat) (out : List (Option (Option Rat))) (i : Nat) (v : Option Rat) :
    Nat → List (Option (Option Rat))
  | 0 => out
  | r + 1 => (writeRunG s out i v r).set (s.getD (i - r) 0) (some v)

theorem outMap_writeRun (s : List Nat) (out : List (Option Out)) (i : Nat) (v : Out) (r : Nat) :
    outMap (writeRun s out i v r) = writeRunG s (outMap out) i (outToF v) r := by
  induction r with
  | zero => rfl
  | succ r ih => simp only [writeRun, writeRunG, outMap_set, ih]

theorem foldl_range'_succ_last {β : Type} (g : β → Nat → β) (a r : Nat) (b : β) :
    (List.range' a (r + 1)).foldl g b = g ((List.range' a r).foldl g b) (a + r) := by
  rw [List.range'_concat]
  simp [List.foldl_append]

theorem inner_loop (s : List Nat) (i : Nat) (v : Option Rat)
    (G : List (Option (Option Rat)) → Nat → List (Option (Option Rat)) × Bool)
    (hG : ∀ o j, G o j = (o.set (s.getD (i - j) 0) (some v), false))
    (out : List (Option (Option Rat))) (r : Nat) :
    forBreak (List.range' 0 (r - 0)) G out = writeRunG s out i v r := by
  rw [forBreak_nobreak G (fun o j => o.set (s.getD (i - j) 0) (some v)) hG, Nat.sub_zero]
  induction r with
  | zero => rfl
  | succ r ih => rw [foldl_range'_succ_last, ih]; simp [writeRunG]

/-- one iteration of the model's `rankLoop`, with its `break` flag -/
def stepM (xs : List Elem) (s : List Nat) (pct : Bool) (nn : Nat) (st : RankSt) (i : Nat) : RankSt × Bool :=
  let idx := s.getD i 0
  let idx1 := s.getD (i + 1) 0
  let v := xs.getD idx none
  let v1 := xs.getD idx1 none
  if v1 = none then
    let sum := st.sum + st.cur
    ({ st with sum := sum, cur := st.cur + 1,
               out := writeRun s st.out i (runVal pct nn sum st.rep) st.rep,
               idx := i + 1, nan := true }, true)
  else if v = v1 then
    ({ st with rep := st.rep + 1, sum := st.sum + st.cur, cur := st.cur + 1, idx := idx }, false)
  else if st.rep = 1 then
    ({ st with out := st.out.set idx (some (oneVal pct nn st.cur)), cur := st.cur + 1, idx := idx }, false)
  else
    let sum := st.sum + st.cur
    ({ st with out := writeRun s st.out i (runVal pct nn sum st.rep) st.rep,
               sum := 0, rep := 1, cur := st.cur + 1, idx := idx }, false)

theorem rankLoop_forBreak (xs : List Elem) (s : List Nat) (pct : Bool) (nn : Nat) :
    ∀ k i st, rankLoop xs s pct nn i k st = forBreak (List.range' i k) (stepM xs s pct nn) st := by
  intro k i st
  fun_induction rankLoop xs s pct nn i k st with
  | case1 => rfl
  | case2 i k st idx1 v1 h1 => rw [List.range'_succ, forBreak_cons, stepM, if_pos h1]; rfl
  | case3 i k st idx idx1 v v1 h1 h2 ih => rw [List.range'_succ, forBreak_cons, stepM, if_neg h1, if_pos h2]; exact ih
  | case4 i k st idx idx1 v v1 h1 h2 h3 ih =>
    rw [List.range'_succ, forBreak_cons, stepM, if_neg h1, if_neg h2, if_pos h3]; exact ih
  | case5 i k st idx idx1 v v1 h1 h2 h3 sum ih =>
    rw [List.range'_succ, forBreak_cons, stepM, if_neg h1, if_neg h2, if_neg h3]; exact ih

theorem forBreak_map {σ τ ι : Type} (e : σ → τ) (f : σ → ι → σ × Bool) (F : τ → ι → τ × Bool)
    (h : ∀ s i, F (e s) i = (e (f s i).1, (f s i).2)) (l : List ι) (s : σ) :
    forBreak l F (e s) = e (forBreak l f s) := by
  induction l generalizing s with
  | nil => rfl
  | cons a l ih =>
    rw [forBreak_cons, forBreak_cons, h]
    simp only []
    cases (f s a).2
    · simp only [Bool.false_eq_true, if_false]; exact ih _
    · simp only [if_true]

/-- the loop state of the regenerated code for a state of the model -/
def enc (st : RankSt) : List (Option (Option Rat)) × Nat × Bool × Nat × Nat × Nat :=
  (outMap st.out, st.rep, st.nan, st.cur, st.sum, st.idx)

theorem main_loop_sim (xs : List Elem) (s : List Nat) (pct : Bool) (nn : Nat)
    {F : List (Option (Option Rat)) × Nat × Bool × Nat × Nat × Nat → Nat →
      (List (Option (Option Rat)) × Nat × Bool × Nat × Nat × Nat) × Bool}
    {l : List Nat} {t0 w : List (Option (Option Rat)) × Nat × Bool × Nat × Nat × Nat}
    (hw : forBreak l F t0 = w) (st : RankSt) (ht : t0 = enc st)
    (hF : ∀ st i, F (enc st) i = (enc (stepM xs s pct nn st i).1, (stepM xs s pct nn st i).2)) :
    w = enc (forBreak l (stepM xs s pct nn) st) := by
  rw [← hw, ht]
  exact forBreak_map enc _ F hF l st

theorem outMap_foldl_set (s : List Nat) (v : Out) (l : List Nat) (out : List (Option Out)) :
    outMap (l.foldl (fun o i => o.set (s.getD i 0) (some v)) out) =
      l.foldl (fun o i => o.set (s.getD i 0) (some (outToF v))) (outMap out) := by
  induction l generalizing out with
  | nil => rfl
  | cons a l ih => simp only [List.foldl_cons, ih, outMap_set]

/-- `repeat_num ≤ i + 1` along the loop: at most one more repeat per iteration -/
theorem rankLoop_rep_le (xs : List Elem) (s : List Nat) (pct : Bool) (nn : Nat) :
    ∀ k i st, st.rep ≤ i + 1 → (rankLoop xs s pct nn i k st).rep ≤ i + k + 1 := by
  intro k i st
  fun_induction rankLoop xs s pct nn i k st with
  | case1 => exact id
  | case2 i k st idx1 v1 h1 => exact fun h => Nat.le_trans h (by omega)
  | case3 i k st idx idx1 v v1 h1 h2 ih => exact fun h => Nat.le_trans (ih (Nat.succ_le_succ h)) (by omega)
  | case4 i k st idx idx1 v v1 h1 h2 h3 ih => exact fun h => Nat.le_trans (ih (Nat.le_succ_of_le h)) (by omega)
  | case5 i k st idx idx1 v v1 h1 h2 h3 sum ih =>
    exact fun _ => Nat.le_trans (ih (Nat.succ_le_succ (Nat.zero_le _))) (by omega)

/-! ### the two copies of the loops

`vrank.run` has the loops twice, for `pct` and for `!pct`; the copies differ only in the float
written for a finished run (`runV sum_rank repeat_num`) and for an unrepeated element
(`oneV cur_rank`). `stepG` and `finishG` are the generated text with these two as parameters. -/

abbrev LoopSt := List (Option (Option Rat)) × Nat × Bool × Nat × Nat × Nat

/-- body of a write loop `out.uset(idx_sorted.uget(g j), v)` -/
def writeG (s : List Nat) (g : Nat → Nat) (v : Option Rat) :
    List (Option (Option Rat)) → Nat → List (Option (Option Rat)) × Bool :=
  fun out j => (out.set (s.getD (g j) 0) (some v), false)

def stepG (xs : List Elem) (s : List Nat) (runV : Nat → Nat → Rat) (oneV : Nat → Rat) :
    LoopSt → Nat → LoopSt × Bool :=
  fun (out, rep, nan, cur, sum, _) i =>
    let idx := s.getD i 0
    let run := forBreak (List.range' 0 (rep - 0))
      (writeG s (i - ·) (some (runV (sum + cur) rep))) out
    if (xs.getD (s.getD (i + 1) 0) none).isNone then
      ((run, rep, true, cur + 1, sum + cur, i + 1), true)
    else if decide (xs.getD idx none = xs.getD (s.getD (i + 1) 0) none) then
      ((out, rep + 1, nan, cur + 1, sum + cur, idx), false)
    else if decide (rep = 1) then
      ((out.set idx (some (some (oneV cur))), rep, nan, cur + 1, sum, idx), false)
    else ((run, 1, nan, cur + 1, 0, idx), false)

def finishG (s : List Nat) (len : Nat) (runV : Nat → Nat → Rat) :
    LoopSt → Option (List (Option (Option Rat))) :=
  fun (out, rep, nan, cur, sum, idx) =>
    if nan then some (forBreak (List.range' idx (len - idx)) (writeG s id none) out)
    else if decide (rep ≤ len) then
      some (forBreak (List.range' (len - rep) (len - (len - rep)))
        (writeG s id (some (runV (sum + cur) rep))) out)
    else none

theorem write_run (s : List Nat) (i : Nat) (v : Out) (out : List (Option Out)) (r : Nat) :
    forBreak (List.range' 0 (r - 0)) (writeG s (i - ·) (outToF v)) (outMap out) =
      outMap (writeRun s out i v r) := by
  rw [inner_loop s i _ (writeG s (i - ·) (outToF v)) (fun _ _ => rfl), outMap_writeRun]

theorem write_range (s : List Nat) (v : Out) (a n : Nat) (out : List (Option Out)) :
    forBreak (List.range' a n) (writeG s id (outToF v)) (outMap out) =
      outMap ((List.range' a n).foldl (fun o i => o.set (s.getD i 0) (some v)) out) := by
  rw [forBreak_nobreak (writeG s id (outToF v)) _ (fun _ _ => rfl), outMap_foldl_set]
  rfl

def rankInit (len : Nat) : RankSt :=
  { out := List.replicate len none, rep := 1, sum := 0, cur := 1, idx := 0, nan := false }

theorem step_sim (xs : List Elem) (s : List Nat) (pct : Bool) (nn : Nat)
    {runV : Nat → Nat → Rat} {oneV : Nat → Rat}
    (hrun : ∀ sum rep, some (runV sum rep) = outToF (runVal pct nn sum rep))
    (hone : ∀ cur, some (oneV cur) = outToF (oneVal pct nn cur)) (st : RankSt) (i : Nat) :
    stepG xs s runV oneV (enc st) i = (enc (stepM xs s pct nn st i).1, (stepM xs s pct nn st i).2) := by
  simp only [stepG, enc, stepM, hrun, hone, write_run, Option.isNone_iff_eq_none]
  by_cases c1 : xs.getD (s.getD (i + 1) 0) none = none
  · simp only [c1, if_true]
  · by_cases c2 : xs.getD (s.getD i 0) none = xs.getD (s.getD (i + 1) 0) none
    · simp only [c1, c2, if_false, decide_true, if_true]
    · by_cases c3 : st.rep = 1
      · simp only [c1, c2, c3, if_false, decide_false, decide_true, Bool.false_eq_true, if_true,
          outMap_set]
      · simp only [c1, c2, c3, if_false, decide_false, Bool.false_eq_true]

theorem finish_sim (s : List Nat) (pct : Bool) (nn len : Nat) {runV : Nat → Nat → Rat}
    (hrun : ∀ sum rep, some (runV sum rep) = outToF (runVal pct nn sum rep)) (st : RankSt)
    (hrep : st.rep ≤ len) :
    finishG s len runV (enc st) = some (outMap (rankFinish s pct nn len st)) := by
  have hsub : len - (len - st.rep) = st.rep := by omega
  simp only [finishG, enc, rankFinish, hrun, ← outToF_null, write_range, hrep, hsub, decide_true,
    if_true]
  cases st.nan <;> rfl

/-- both loops of one copy, from the initial state -/
theorem loops_sim (xs : List Elem) (s : List Nat) (pct : Bool) {len : Nat} (hlen : 1 ≤ len)
    {runV : Nat → Nat → Rat} {oneV : Nat → Rat}
    (hrun : ∀ sum rep, some (runV sum rep) = outToF (runVal pct (valid xs).length sum rep))
    (hone : ∀ cur, some (oneV cur) = outToF (oneVal pct (valid xs).length cur)) :
    finishG s len runV (forBreak (List.range' 0 (len - 1 - 0)) (stepG xs s runV oneV)
        (List.replicate len none, 1, false, 1, 0, 0)) =
      some (outMap (rankFinish s pct (valid xs).length len
        (rankLoop xs s pct (valid xs).length 0 (len - 1) (rankInit len)))) := by
  rw [main_loop_sim xs s pct (valid xs).length rfl (rankInit len)
      (by rw [enc, rankInit, outMap_replicate_none]) (step_sim xs s pct _ hrun hone),
    Nat.sub_zero, ← rankLoop_forBreak]
  have := rankLoop_rep_le xs s pct (valid xs).length (len - 1) 0 (rankInit len) (Nat.le_refl _)
  exact finish_sim s pct _ len hrun _ (by omega)

/-- the generated text after the argsort `s` -/
def sortedG (xs : List Elem) (pct : Bool) (s : List Nat) : Option (List (Option (Option Rat))) :=
  let len := xs.length
  let loops := fun (runV : Nat → Nat → Rat) (oneV : Nat → Rat) =>
    if decide (1 ≤ len) then
      finishG s len runV (forBreak (List.range' 0 (len - 1 - 0)) (stepG xs s runV oneV)
        (List.replicate len none, 1, false, 1, 0, 0))
    else none
  if (xs.getD (s.getD 0 0) none).isNone then some (List.replicate len (some none))
  else if !pct then loops (fun sum rep => (sum : Rat) / (rep : Rat)) (fun cur => (cur : Rat))
  else
    let nn := GenAgg.count_valid.run (fun x => x) xs
    loops (fun sum rep => (sum : Rat) / ((rep * nn : Nat) : Rat)) (fun cur => (cur : Rat) / (nn : Rat))

theorem sortedG_eq (xs : List Elem) (pct : Bool) (s : List Nat) (hlen : 1 ≤ xs.length) :
    sortedG xs pct s = some (outMap (
      if xs.getD (s.getD 0 0) none = none then List.replicate xs.length (some .null)
      else rankFinish s pct (valid xs).length xs.length
        (rankLoop xs s pct (valid xs).length 0 (xs.length - 1) (rankInit xs.length)))) := by
  unfold sortedG
  by_cases hn : xs.getD (s.getD 0 0) none = none
  · simp only [hn, Option.isNone_none, if_true, outMap, List.map_replicate]; rfl
  · simp only [Option.isNone_iff_eq_none, hn, if_false, hlen, decide_true, if_true,
      C12GenA.count_valid_len]
    cases pct
    · exact loops_sim xs s false hlen (fun _ _ => (outToF_div _ _).symm) (fun _ => rfl)
    · exact loops_sim xs s true hlen (fun _ _ => (outToF_div _ _).symm)
        (fun _ => (outToF_div _ _).symm)

attribute [local irreducible] forBreak in
/-- `vrank.run` is this text: its two copies of the loops are `stepG`, `finishG` at the two pairs
of written values. (`forBreak` is sealed for the comparison: the unifier would otherwise evaluate
every loop, stuck on its symbolic bound, before looking at its body.) -/
theorem run_folded (S : Std) (xs : List (Option Rat)) (pct rev : Bool) :
    GenRank.vrank.run S xs pct rev =
      if decide (xs.length = 0) then some []
      else if decide (xs.length = 1) then
        if (xs.getD 0 none).isNone then some (List.replicate xs.length (some none))
        else some (List.replicate xs.length (some (some 1)))
      else if !rev then sortedG xs pct (S.sort (leIdx false xs) (List.range xs.length))
      else sortedG xs pct (S.sort (leIdx true xs) (List.range xs.length)) := by rfl

theorem vrank_eq (S : Std) (xs : List (Option Rat)) (pct rev : Bool) :
    GenRank.vrank.run S xs pct rev = some (outMap (C12.vrank S xs pct rev)) := by
  rw [run_folded]
  unfold C12.vrank
  by_cases h0 : xs.length = 0
  · simp only [h0, decide_true, if_true]; rfl
  by_cases h1 : xs.length = 1
  · obtain ⟨a, rfl⟩ := List.length_eq_one_iff.mp h1
    cases a <;> rfl
  simp only [h0, h1, decide_false, Bool.false_eq_true, if_false]
  cases rev <;> exact sortedG_eq xs pct _ (by omega)

/-- **from source**: every slot of the regenerated `vrank` is written, the output has the input's
length, slot `i` is null exactly when element `i` is, and a non-null element gets its average rank
(ascending or descending, optionally as a fraction of the valid count) — whatever permutation std's
`sort_unstable_by` produces (contract `S.Ok`) -/
theorem vrank_from_source {S : Std} (hS : S.Ok) (xs : List (Option Rat)) (pct rev : Bool) :
    ∃ out, GenRank.vrank.run S xs pct rev = some out ∧ out.length = xs.length ∧
      (∀ i (hi : i < xs.length), xs[i] = none → out[i]? = some (some none)) ∧
      (∀ i (hi : i < xs.length) (v : Rat), xs[i] = some v →
        out[i]? = some (some (some (Spec.avgRank xs pct rev v)))) := by
  refine ⟨_, vrank_eq S xs pct rev, ?_, ?_, ?_⟩
  · simp [outMap, vrank_length hS]
  · intro i hi h
    have := (vrank_null_iff hS xs pct rev i hi).mpr h
    simp [outMap, this, outToF]
  · intro i hi v h
    have := vrank_get hS xs pct rev i v hi h
    simp [outMap, this, outToF]

theorem vrank_present :
    GenRank.vrank.parsed = true ∧ GenRank.vrank.loops = 10 ∧ GenRank.vrank.sorts = 2 ∧ GenRank.vrank.unguarded = 4 :=
  ⟨rfl, rfl, rfl, rfl⟩

end Tv.C12GenB
