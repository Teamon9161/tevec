import Tv.Lemmas.C04Run
import Tv.Generated
/-!
# C04 — rolling covariance, correlation and regressions equal per-window least squares

Property theorems only (helper lemmas: `Tv/Lemmas/C04*.lean`). All statements are for every
pair of equal-length series of `Option Rat` (independent null patterns), every window `w ≥ 1`,
every `min_periods` (omitted or not), both driver shapes (`Shape.to` = the two-phase `*_to`
loops of Vec / ndarray / caller buffers, `Shape.iter` = the iterator bodies of VecDeque / Polars)
and every position: the model of the incremental closures (`Model/C04.lean`, transcribed from
`binary.rs` / `reg.rs` after the `fix:` commits for F20 and F21) equals the from-scratch
definitions of `Spec/C04.lean` evaluated on the pairwise-complete observations of the window
(`Spec.complete (window (xs.zip ys) i w)`), resp. on the valid values of the window with
`t = 1..n` for the trend family. Arithmetic is exact (`Rat`); "up to floating-point rounding" is
the job of the correspondence run (DESIGN 5.1).

The algebraic obligations named in DESIGN §6/C04 are proved in the lemma files and audited with
the theorems below: `cross_sum_centered`, `normal_eq_beta`, `normal_eq_alpha`, `sse_identity`,
`sum_t`, `sum_tt` (`Tv/Lemmas/C04Alg.lean`, `C04Trend.lean`).
-/
namespace Tv.C04
open Tv Tv.Spec Tv.C04.Spec

/-! ### covariance and correlation -/

/-- `ts_vcov` = sample covariance `Σ(a-ā)(b-b̄)/(n-1)` of the pairwise-complete window -/
theorem vcov_exact (sh : Shape) (xs ys : List (Option Rat)) (w : Nat) (mp : Option Nat)
    (hw : 1 ≤ w) (hlen : ys.length = xs.length) :
    ts2 .cov sh xs ys w mp = rolling2 (cov (effMp mp w 2)) xs ys w :=
  cross_exact _ _ (emitCov_spec _) sh xs ys w hw hlen

/-- `ts_vcorr` = Pearson correlation of the pairwise-complete window (as a signed square root;
undefined when a population variance is at or below `EPS`) -/
theorem vcorr_exact (sh : Shape) (xs ys : List (Option Rat)) (w : Nat) (mp : Option Nat)
    (hw : 1 ≤ w) (hlen : ys.length = xs.length) :
    ts2 .corr sh xs ys w mp = rolling2 (corr (effMp mp w 0)) xs ys w :=
  cross_exact _ _ (emitCorr_spec _) sh xs ys w hw hlen

/-! ### regression of the first series on the second -/

/-- `ts_vregx_alpha` = least-squares intercept `ȳ - β x̄` -/
theorem vregx_alpha_exact (sh : Shape) (xs ys : List (Option Rat)) (w : Nat) (mp : Option Nat)
    (hw : 1 ≤ w) (hlen : ys.length = xs.length) :
    ts2 .alpha sh xs ys w mp = rolling2 (regxAlpha (effMp mp w 0)) xs ys w :=
  cross_exact _ _ (emitAlpha_spec _) sh xs ys w hw hlen

/-- `ts_vregx_beta` = least-squares slope `Σ(x-x̄)(y-ȳ)/Σ(x-x̄)²` -/
theorem vregx_beta_exact (sh : Shape) (xs ys : List (Option Rat)) (w : Nat) (mp : Option Nat)
    (hw : 1 ≤ w) (hlen : ys.length = xs.length) :
    ts2 .beta sh xs ys w mp = rolling2 (regxBeta (effMp mp w 0)) xs ys w :=
  cross_exact _ _ (emitBeta_spec _) sh xs ys w hw hlen

/-- `ts_vregx_all` = `(α, β, Σ(y-α-βx)²)` of the least-squares line -/
theorem vregx_all_exact (sh : Shape) (xs ys : List (Option Rat)) (w : Nat) (mp : Option Nat)
    (hw : 1 ≤ w) (hlen : ys.length = xs.length) :
    tsRegxAll sh xs ys w mp = (List.range xs.length).map fun i =>
      let l := complete (window (xs.zip ys) i w)
      (regxAlpha (effMp mp w 0) l, regxBeta (effMp mp w 0) l, regxSse (effMp mp w 0) l) :=
  cross_exact (emitAll _) (fun l => (regxAlpha _ l, regxBeta _ l, regxSse _ l))
    (fun l => by rw [emitAll, emitAlpha_spec, emitBeta_spec, emitSse_spec]) sh xs ys w hw hlen

/-- `ts_vregx_resid_mean` = mean of the least-squares residuals `e_j = y_j - α - β x_j` -/
theorem vregx_resid_mean_exact (sh : Shape) (xs ys : List (Option Rat)) (w : Nat) (mp : Option Nat)
    (hw : 1 ≤ w) (hlen : ys.length = xs.length) :
    ts2 .residMean sh xs ys w mp = rolling2 (regxResidMean (effMp mp w 0)) xs ys w :=
  (resid_run _ _ sh xs ys w hw hlen).trans <| congrArg (rolling2 · xs ys w) <|
    regx_congr (fun l hd => aggMean_spec _ (by
      rw [residuals, residualsOf_length]; exact fun h0 => hd (Or.inl h0))) _

/-- `ts_vregx_resid_std` = sample standard deviation of the least-squares residuals -/
theorem vregx_resid_std_exact (sh : Shape) (xs ys : List (Option Rat)) (w : Nat) (mp : Option Nat)
    (hw : 1 ≤ w) (hlen : ys.length = xs.length) :
    ts2 .residStd sh xs ys w mp = rolling2 (regxResidStd (effMp mp w 0)) xs ys w :=
  (resid_run _ _ sh xs ys w hw hlen).trans <| congrArg (rolling2 · xs ys w) <|
    regx_congr (fun _ _ => aggStd_spec _) _

/-- `ts_vregx_resid_skew` = adjusted Fisher–Pearson skewness of the least-squares residuals -/
theorem vregx_resid_skew_exact (sh : Shape) (xs ys : List (Option Rat)) (w : Nat) (mp : Option Nat)
    (hw : 1 ≤ w) (hlen : ys.length = xs.length) :
    ts2 .residSkew sh xs ys w mp = rolling2 (regxResidSkew (effMp mp w 0)) xs ys w :=
  (resid_run _ _ sh xs ys w hw hlen).trans <| congrArg (rolling2 · xs ys w) <|
    regx_congr (fun _ _ => aggSkew_spec _) _

/-! ### time-trend family: least squares of the window's valid values on `1..n` -/

/-- `ts_vreg` = fitted value at the last point, `α + β n` -/
theorem vreg_exact (sh : Shape) (xs : List (Option Rat)) (w : Nat) (mp : Option Nat) (hw : 1 ≤ w) :
    ts1 .reg sh xs w mp = rolling1 (trendFitted (effMp mp w 0)) xs w :=
  trend_run _ _ (trend_fitted_spec _) sh xs w hw

/-- `ts_vtsf` = one-step-ahead forecast, `α + β (n+1)` -/
theorem vtsf_exact (sh : Shape) (xs : List (Option Rat)) (w : Nat) (mp : Option Nat) (hw : 1 ≤ w) :
    ts1 .tsf sh xs w mp = rolling1 (trendForecast (effMp mp w 0)) xs w :=
  trend_run _ _ (trend_forecast_spec _) sh xs w hw

/-- `ts_vreg_slope` = least-squares slope on `t = 1..n` -/
theorem vreg_slope_exact (sh : Shape) (xs : List (Option Rat)) (w : Nat) (mp : Option Nat) (hw : 1 ≤ w) :
    ts1 .slope sh xs w mp = rolling1 (trendSlope (effMp mp w 0)) xs w :=
  trend_run _ _ (trend_slope_spec _) sh xs w hw

/-- `ts_vreg_intercept` = least-squares intercept on `t = 1..n` -/
theorem vreg_intercept_exact (sh : Shape) (xs : List (Option Rat)) (w : Nat) (mp : Option Nat) (hw : 1 ≤ w) :
    ts1 .intercept sh xs w mp = rolling1 (trendIntercept (effMp mp w 0)) xs w :=
  trend_run _ _ (trend_intercept_spec _) sh xs w hw

/-- `ts_vreg_resid_mean` (after the F21 repair) = mean squared residual `Σ(y_k - α - βk)²/n` -/
theorem vreg_resid_mean_exact (sh : Shape) (xs : List (Option Rat)) (w : Nat) (mp : Option Nat) (hw : 1 ≤ w) :
    ts1 .residMean sh xs w mp = rolling1 (trendMsr (effMp mp w 0)) xs w :=
  trend_run _ _ (trend_msr_spec _) sh xs w hw

/-- **F21 witness**: the pinned `ts_vreg_resid_mean` (weight `n·Σt²` on `β²`) returns `5/2` and
`379/18 ≈ 21.06` on `[1,2,4]`, `w = 3`, where the mean squared residuals of the OLS lines are `0`
and `1/18 ≈ 0.056`. -/
theorem vreg_resid_mean_pinned_wrong :
    tsResidMeanPinned .to [some 1, some 2, some 4] 3 (some 0) = [.degen, .val (5/2), .val (379/18)] ∧
    rolling1 (trendMsr 0) [some 1, some 2, some 4] 3 = [.degen, .val 0, .val (1/18)] ∧
    ts1 .residMean .to [some 1, some 2, some 4] 3 (some 0) = [.degen, .val 0, .val (1/18)] := by
  decide +kernel

/-- **F20 witness**: the pinned `ts_vcov` (no `.max(2)`) panics (usize underflow of `n - 1`) as soon
as a window without a complete pair is reached with `min_periods = 0`; the repaired closure masks
that position. -/
theorem vcov_pinned_panics :
    tsCovPinned .to [none, some 1] [some 1, some 1] 2 (some 0) = none ∧
    ts2 .cov .to [none, some 1] [some 1, some 1] 2 (some 0) = [.null, .null] := by
  decide +kernel

/-! ### a perfect linear window has zero residual; least squares minimises the residual sum -/

/-- if the complete observations of a window lie on `y = a + b x` (and `x` is not constant), least
squares returns exactly `(a, b)`, every residual is `0`, and so are SSE, residual mean and residual
standard deviation (whatever `min_periods ≤ n` is in force) -/
theorem perfect_line_zero_resid (l : List (Rat × Rat)) (a b : Rat) (mp : Nat)
    (hline : ∀ p ∈ l, p.1 = a + b * p.2) (hd : ¬ undefinedReg l) (hm : l.length ≥ mp) :
    regxAlpha mp l = .val a ∧ regxBeta mp l = .val b ∧ regxSse mp l = .val 0 ∧
    regxResidMean mp l = .val 0 ∧ regxResidStd mp l = .val 0 ∧ (∀ e ∈ residuals l, e = 0) := by
  obtain ⟨hb, ha⟩ := line_beta_alpha l a b hline hd
  have hr := line_residuals l a b hline hd
  have hn2 : ¬ l.length < 2 := fun h => hd (undefined_of_length_le_one l (by omega))
  have hmean : mean (l.map fun _ => (0 : Rat)) = 0 := by unfold mean; rw [sum_zeros]; simp
  refine ⟨?_, ?_, ?_, ?_, ?_, ?_⟩
  · unfold regxAlpha; rw [regx_eval, if_pos hm, if_neg hd, ha]
  · unfold regxBeta; rw [regx_eval, if_pos hm, if_neg hd, hb]
  · unfold regxSse; rw [regx_eval, if_pos hm, if_neg hd, line_sse l a b hline hd]
  · unfold regxResidMean; rw [regx_eval, if_pos hm, if_neg hd, hr, hmean]
  · unfold regxResidStd
    rw [regx_eval, if_pos hm, if_neg hd]
    simp only [hr, List.length_map]
    rw [if_neg hn2]
    have hc : cmom 2 (l.map fun _ => (0 : Rat)) = 0 := by
      unfold cmom csum
      rw [hmean, List.map_map]
      have : ((fun x : Rat => (x - 0) ^ 2) ∘ fun _ : Rat × Rat => (0 : Rat)) = fun _ => (0 : Rat) := by
        funext p; simp
      rw [this, sum_zeros]; simp
    rw [if_pos (by rw [hc]; exact EPS_pos.le)]
  · intro e he
    rw [hr] at he
    simp only [List.mem_map] at he
    obtain ⟨_, _, h⟩ := he
    exact h.symm

/-- model-level form of `perfect_line_zero_resid`: at a position whose window's complete pairs lie
on a line (x not constant, enough observations) the closures return `(a, b, 0)`, residual mean `0`
and residual standard deviation `0` -/
theorem perfect_line_zero_resid_model (sh : Shape) (xs ys : List (Option Rat)) (w : Nat) (mp : Option Nat)
    (hw : 1 ≤ w) (hlen : ys.length = xs.length) (i : Nat) (hi : i < xs.length) (a b : Rat)
    (hline : ∀ p ∈ complete (window (xs.zip ys) i w), p.1 = a + b * p.2)
    (hd : ¬ undefinedReg (complete (window (xs.zip ys) i w)))
    (hm : (complete (window (xs.zip ys) i w)).length ≥ effMp mp w 0) :
    (tsRegxAll sh xs ys w mp)[i]? = some (.val a, .val b, .val 0) ∧
    (ts2 .residMean sh xs ys w mp)[i]? = some (.val 0) ∧
    (ts2 .residStd sh xs ys w mp)[i]? = some (.val 0) := by
  obtain ⟨h1, h2, h3, h4, h5, _⟩ := perfect_line_zero_resid _ a b _ hline hd hm
  rw [vregx_all_exact sh xs ys w mp hw hlen, vregx_resid_mean_exact sh xs ys w mp hw hlen,
    vregx_resid_std_exact sh xs ys w mp hw hlen]
  unfold rolling2
  simp only [List.getElem?_map, List.getElem?_range hi, Option.map_some, h1, h2, h3, h4, h5]
  exact ⟨trivial, trivial, trivial⟩

/-- trend form: if the valid values of a window are `v_k = a + b k` (`k = 1..n`, `n ≥ 2`), the trend
family returns slope `b`, intercept `a`, fitted value `a + b n`, forecast `a + b (n+1)` and mean
squared residual `0` -/
theorem perfect_trend_zero_resid (v : List Rat) (a b : Rat) (mp : Nat)
    (hline : ∀ p ∈ timed 0 v, p.1 = a + b * p.2) (hd : ¬ undefinedReg (timed 0 v)) (hm : v.length ≥ mp) :
    trendSlope mp v = .val b ∧ trendIntercept mp v = .val a ∧
    trendFitted mp v = .val (a + b * (v.length : Rat)) ∧
    trendForecast mp v = .val (a + b * ((v.length : Rat) + 1)) ∧ trendMsr mp v = .val 0 := by
  obtain ⟨hb, ha⟩ := line_beta_alpha _ a b hline hd
  have hs := line_sse _ a b hline hd
  unfold trendSlope trendIntercept trendFitted trendForecast trendMsr trend
  simp only [if_pos hm, if_neg hd, hb, ha, hs, timed_length, zero_div, and_self]

/-- **ols_minimises**: the closed-form line minimises the squared-residual sum over all lines -/
theorem ols_minimises (l : List (Rat × Rat)) (hd : ¬ undefinedReg l) (a b : Rat) :
    Spec.sse l ≤ sum ((residualsOf a b l).map fun e => e * e) := by
  obtain ⟨h1, h2⟩ := normal_equations l hd
  have hsq := sum_sq_nonneg (fun p : Rat × Rat => (a - alpha l) + (b - beta l) * p.2) l
  rw [sq_line_expand] at hsq
  unfold Spec.sse residuals
  rw [sse_expand, sse_expand]
  -- the difference of the two sums is the square sum `hsq` plus multiples of the normal equations
  have key :
      (sAA l - 2 * a * sA l - 2 * b * sAB l + (l.length : Rat) * a * a + 2 * a * b * sB l + b * b * sBB l)
        - (sAA l - 2 * alpha l * sA l - 2 * beta l * sAB l + (l.length : Rat) * alpha l * alpha l
            + 2 * alpha l * beta l * sB l + beta l * beta l * sBB l)
      = (l.length : Rat) * (a - alpha l) * (a - alpha l) + 2 * (a - alpha l) * (b - beta l) * sB l
            + (b - beta l) * (b - beta l) * sBB l := by
    linear_combination (2 * (a - alpha l)) * h1 + (2 * (b - beta l)) * h2
  rw [← sub_nonneg, key]
  exact hsq

/-! ### tie to the Rust text: mask expression and driver of each entry point (regenerated table) -/

/-- what the model assumes about an entry point: `.min(window)` present, window not clamped to the
length first, the `.max(k)` constant, the driver, the standard `unwrap_or(window / 2)` form -/
def expectedRow (name : String) (k : Nat) (driver : String) : String × Bool × Bool × Nat × String × String :=
  (name, true, false, k, driver, "std")

/-- the rows of `Generated.maskTable` (extracted from binary.rs / reg.rs on every run) for the 13
entry points are exactly what `ts2` / `tsRegxAll` / `ts1` model: `effMp mp w 2` for `ts_vcov`
(the F20 repair), `effMp mp w 0` elsewhere; value drivers for the closed forms, index drivers for
the residual closures. A change of a mask expression or of a driver breaks this theorem. -/
theorem maskTable_matches :
    [expectedRow "ts_vcov" (Fn2.minK .cov) "rolling2_apply",
     expectedRow "ts_vcorr" (Fn2.minK .corr) "rolling2_apply",
     expectedRow "ts_vregx_alpha" (Fn2.minK .alpha) "rolling2_apply",
     expectedRow "ts_vregx_beta" (Fn2.minK .beta) "rolling2_apply",
     expectedRow "ts_vregx_all" 0 "rolling2_apply",
     expectedRow "ts_vregx_resid_mean" (Fn2.minK .residMean) "rolling2_apply_idx",
     expectedRow "ts_vregx_resid_std" (Fn2.minK .residStd) "rolling2_apply_idx",
     expectedRow "ts_vregx_resid_skew" (Fn2.minK .residSkew) "rolling2_apply_idx",
     expectedRow "ts_vreg" 0 "rolling_apply",
     expectedRow "ts_vtsf" 0 "rolling_apply",
     expectedRow "ts_vreg_slope" 0 "rolling_apply",
     expectedRow "ts_vreg_intercept" 0 "rolling_apply",
     expectedRow "ts_vreg_resid_mean" 0 "rolling_apply"].all (fun r => Generated.maskTable.contains r) = true := by
  simp only [List.all_eq_true, List.contains_iff_mem, List.forall_mem_cons, List.not_mem_nil, false_imp_iff,
    implies_true, and_true]
  -- each row is found by walking the table (`List.Mem.head` / `tail`): rows that differ fail to unify
  -- at their first literal, and no string is compared by evaluation
  repeat constructor

/-! ### non-vacuity: concrete inputs with nulls, a non-collinear window, removal in action -/

example : ts2 .cov .to [some 1, some 5, some 3, some 2, some 5] [some 2, some 5, some 4, some 3, some 6] 3 (some 2)
    = [.null, .val 6, .val 3, .val (3/2), .val (7/3)] := by decide +kernel
example : tsRegxAll .to [some 1, some 5, some 3, none, some 5] [some 2, some 5, some 4, some 3, some 7] 3 (some 1)
    = [(.degen, .degen, .degen), (.val (-5/3), .val (4/3), .val 0), (.val (-12/7), .val (9/7), .val (2/7)),
       (.val (-5), .val 2, .val 0), (.val (1/3), .val (2/3), .val 0)] := by decide +kernel
example : ts2 .residStd .iter [some 1, some 5, some 3, none, some 5] [some 2, some 5, some 4, some 3, some 7] 4 (some 1)
    = [.degen, .val 0, .root 1 (1/7), .root 1 (1/7), .root 1 (4/7)] := by decide +kernel
example : ts1 .tsf .to [some 1, some 2, some 4, none, some 3] 3 none
    = [.degen, .val 3, .val (16/3), .val 6, .val 2] := by decide +kernel
/-- the hypotheses of `perfect_line_zero_resid` are satisfiable: `y = 1 + 2x` on three points -/
example : (∀ p ∈ [((1:Rat), (0:Rat)), (3, 1), (7, 3)], p.1 = 1 + 2 * p.2) ∧ ¬ undefinedReg [((1:Rat), (0:Rat)), (3, 1), (7, 3)] := by
  decide +kernel

end Tv.C04
