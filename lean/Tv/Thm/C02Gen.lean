import Tv.GenDrv
import Tv.Thm.C02
import Tv.Lemmas.GenSim
import Tv.Generated
/-!
# C02 — the rolling drivers regenerated from view.rs perform the model's callback sequence

`Tv.GenDrv.<fn>.run len window` is written by translator/drivers.py from the Rust source of the
five two-phase drivers (`rolling_apply_to`, `rolling2_apply_to`, `rolling_apply_idx_to`,
`rolling2_apply_idx_to`, `rolling_custom_to`) on every run: the loops in source order, every
`out.uset(p, f(a, …))` appended to a log as the event `(p, a, …)` with unchecked reads represented
by their index, `assert!` failures as `none`.  For each driver this file proves that the log is
**exactly** the model's index sequence `toIdx len window` (`Shape.to`), rendered as that driver's
events — for every length and window — and that the driver rejects `window = 0` on a non-empty
series.  With `toIdx_eq` this gives the property's statement for the regenerated code
(`rolling_apply_to_calls`): one callback per position, in increasing order, written at its own position, with
the element at `i - w + 1` reported as removed once `i ≥ w - 1` (for the clamped window).  The
closures run over these callbacks are the subject of `C01Gen`, `C03Gen`, `C04Gen`.
The default (iterator) bodies `rolling_apply`, `rolling2_apply`, `rolling_apply_idx`,
`rolling2_apply_idx`, `rolling_custom_iter` are translated too (second part of this file) and
proved equal to `iterIdx`.  Not translated: the backend overrides in backends_impl (they call the
`*_to` drivers on a fresh buffer) and `rolling2_custom`.
-/
namespace Tv.C02Gen
open Tv

/-- a loop that appends one event per iteration builds `acc ++ l.map g` -/
theorem foldl_snoc_eq_append_map {α β : Type} (f : List α → β → List α) (g : β → α)
    (hf : ∀ log i, f log i = log ++ [g i]) (acc : List α) (l : List β) :
    List.foldl f acc l = acc ++ l.map g := by
  induction l generalizing acc with
  | nil => simp
  | cons x l ih => simp [List.foldl_cons, hf, ih]

/-- the shape all five `*_to` drivers share after the `assert!`: clamp the window, return early when it
is `0`, a warm-up loop without a removed index, a main loop with one; each iteration appends the event
`r (start?, end)`.  The log is the model's `toIdx`, rendered by `r`. -/
theorem two_phase {ε : Type} (r : Option Nat × Nat → ε) (len w : Nat) (f1 f2 : List ε → Nat → List ε)
    (h1 : ∀ log i, f1 log i = log ++ [r (none, i)])
    (h2 : ∀ log s, f2 log s = log ++ [r (some s, min w len - 1 + s)]) :
    (if min w len = 0 then some [] else
      some (List.foldl f2 (List.foldl f1 [] (List.range' 0 (min w len - 1 - 0))) (List.range (len - (min w len - 1)))))
      = some ((toIdx len w).map r) := by
  by_cases h0 : min w len = 0
  · rw [if_pos h0, toIdx, if_pos h0]; rfl
  · rw [if_neg h0, foldl_snoc_eq_append_map f1 _ h1, foldl_snoc_eq_append_map f2 _ h2, toIdx, if_neg h0, List.map_append, List.map_map,
      List.map_map, List.nil_append, Nat.sub_zero, ← List.range_eq_range']
    exact congrArg some (congrArg _ (List.map_congr_left fun s _ => by rw [Nat.add_comm]; rfl))

theorem assert_ok {len w : Nat} (h : 0 < w ∨ len = 0) : (!(decide (w > 0) || decide (len = 0))) = false := by
  rcases h with h | h <;> simp [h]

theorem rolling_apply_to_eq (len w : Nat) (h : 0 < w ∨ len = 0) :
    GenDrv.rolling_apply_to.run len w = some ((toIdx len w).map fun p => (p.2, p.1, p.2)) := by
  unfold GenDrv.rolling_apply_to.run
  simp only [assert_ok h, Bool.false_eq_true, if_false, decide_eq_true_eq]
  exact two_phase (fun p => (p.2, p.1, p.2)) len w _ _ (fun _ _ => rfl) (fun _ _ => rfl)

theorem rolling_apply_to_panics (len w : Nat) (h : ¬ (0 < w ∨ len = 0)) :
    GenDrv.rolling_apply_to.run len w = none := by
  have hw : ¬ (w > 0) := fun x => h (Or.inl x)
  have hl : ¬ (len = 0) := fun x => h (Or.inr x)
  simp [GenDrv.rolling_apply_to.run, hw, hl]

theorem rolling2_apply_to_eq (len len2 w : Nat) (h : 0 < w ∨ len = 0) (h2 : len ≤ len2) :
    GenDrv.rolling2_apply_to.run len len2 w
      = some ((toIdx len w).map fun p => (p.2, p.1.map (fun s => (s, s)), (p.2, p.2))) := by
  unfold GenDrv.rolling2_apply_to.run
  simp only [assert_ok h, decide_eq_true (show len2 ≥ len from h2), Bool.not_true, Bool.false_eq_true, if_false, decide_eq_true_eq]
  exact two_phase (fun p => (p.2, p.1.map (fun s => (s, s)), (p.2, p.2))) len w _ _ (fun _ _ => rfl) (fun _ _ => rfl)

theorem rolling_apply_idx_to_eq (len w : Nat) (h : 0 < w ∨ len = 0) :
    GenDrv.rolling_apply_idx_to.run len w = some ((toIdx len w).map fun p => (p.2, p.1, p.2, p.2)) := by
  unfold GenDrv.rolling_apply_idx_to.run
  simp only [assert_ok h, Bool.false_eq_true, if_false, decide_eq_true_eq]
  exact two_phase (fun p => (p.2, p.1, p.2, p.2)) len w _ _ (fun _ _ => rfl) (fun _ _ => rfl)

theorem rolling2_apply_idx_to_eq (len len2 w : Nat) (h : 0 < w ∨ len = 0) (h2 : len ≤ len2) :
    GenDrv.rolling2_apply_idx_to.run len len2 w
      = some ((toIdx len w).map fun p => (p.2, p.1, p.2, (p.2, p.2))) := by
  unfold GenDrv.rolling2_apply_idx_to.run
  simp only [assert_ok h, decide_eq_true (show len2 ≥ len from h2), Bool.not_true, Bool.false_eq_true, if_false, decide_eq_true_eq]
  exact two_phase (fun p => (p.2, p.1, p.2, (p.2, p.2))) len w _ _ (fun _ _ => rfl) (fun _ _ => rfl)

/-- `rolling_custom_to` hands the closure the slice `start.unwrap_or(0) .. end + 1` -/
theorem rolling_custom_to_eq (len w : Nat) (h : 0 < w ∨ len = 0) :
    GenDrv.rolling_custom_to.run len w = some ((toIdx len w).map fun p => (p.2, (p.1.getD 0, p.2 + 1))) := by
  unfold GenDrv.rolling_custom_to.run
  simp only [assert_ok h, Bool.false_eq_true, if_false, decide_eq_true_eq]
  exact two_phase (fun p => (p.2, (p.1.getD 0, p.2 + 1))) len w _ _ (fun _ _ => rfl) (fun _ _ => rfl)

/-- the regenerated `rolling_apply_to` calls back once per position `i`, in increasing order, writes
result `i` at position `i`, and reports position `i - (W-1)` as removed exactly when `i ≥ W-1`,
`W = min(window, len)` -/
theorem rolling_apply_to_calls (len w : Nat) (hw : 1 ≤ w) :
    GenDrv.rolling_apply_to.run len w
      = some ((List.range len).map fun i => (i, startAt (min w len) i, i)) := by
  rw [rolling_apply_to_eq len w (Or.inl hw), toIdx_eq len w hw]
  simp [List.map_map, Function.comp_def]

/-- a log that renders the model's index sequence by `r`, each event carrying its position: the
positions are `0..len` in order, and a property of the event at `(startAt W i, i)` for every `i < len`
holds of every event -/
theorem safe_of_render {ε : Type} {r : Option Nat × Nat → ε} {pos : ε → Nat} {P : ε → Prop} (len w : Nat)
    (hw : 1 ≤ w) (hpos : ∀ p, pos (r p) = p.2) (hP : ∀ i, i < len → P (r (startAt (min w len) i, i))) :
    ((toIdx len w).map r).map pos = List.range len ∧ ∀ ev ∈ (toIdx len w).map r, P ev := by
  rw [toIdx_eq len w hw, List.map_map]
  refine ⟨?_, fun ev hev => ?_⟩
  · rw [List.map_map]
    conv => rhs; rw [← List.map_id (List.range len)]
    exact List.map_congr_left fun i _ => hpos _
  · obtain ⟨p, hp, rfl⟩ := List.mem_map.1 hev
    obtain ⟨i, hi, rfl⟩ := List.mem_map.1 hp
    exact hP i (List.mem_range.1 hi)

/-- every slot is written exactly once, in order, and every unchecked read is in bounds -/
theorem rolling_apply_to_safe (len w : Nat) (hw : 1 ≤ w) :
    ∃ log, GenDrv.rolling_apply_to.run len w = some log ∧ log.map (·.1) = List.range len ∧
      (∀ ev ∈ log, ev.2.2 < len ∧ ∀ s, ev.2.1 = some s → s < len) :=
  ⟨_, rolling_apply_to_eq len w (Or.inl hw),
    safe_of_render len w hw (fun _ => rfl) fun _ hi =>
      ⟨hi, fun _ hs => Nat.lt_of_le_of_lt (startAt_le hs) hi⟩⟩

/-! ## the default (iterator) bodies — the returned path of backends without a `*_to` override

`GenDrv.rolling_apply.run` … `rolling_custom_iter.run` are the `else` branches of the default
methods (the `if let Some(out) = out` branch delegates to the `*_to` driver above, which the
translator checks), with an iterator read as the list of the items it yields and an element of
`self.titer()` represented by its index.  Each is exactly the model's `iterIdx len window`
(`Shape.iter`).  `rolling_custom_iter` has no `assert!`: `window - 1` at `window = 0` underflows in
the real code (outside the generated semantics: truncated subtraction), hence `1 ≤ w`. -/

/-- the translator prints the destructuring of the zipped item as the identity map `(a, b) ↦ (a, b)` -/
theorem map_pair_id {α β : Type} (l : List (α × β)) : (l.map fun (p : α × β) => match p with | (a, b) => (a, b)) = l := by
  induction l with
  | nil => rfl
  | cons x l ih => obtain ⟨a, b⟩ := x; simp [ih]

theorem rolling_apply_iter_eq (len w : Nat) (hw : 1 ≤ w) :
    GenDrv.rolling_apply.run len w = some (iterIdx len w) := by
  have : decide (w > 0) = true := decide_eq_true hw
  simp only [GenDrv.rolling_apply.run, this, Bool.not_true, Bool.false_eq_true, if_false, iterIdx]
  congr 1
  exact map_pair_id _

theorem rolling_apply_iter_panics (len : Nat) : GenDrv.rolling_apply.run len 0 = none := by
  simp [GenDrv.rolling_apply.run]

theorem zip_range_of_le {len len2 : Nat} (h : len ≤ len2) :
    (List.range len).zip (List.range len2) = (List.range len).map fun i => (i, i) := by
  apply List.ext_getElem
  · rw [List.length_zip, List.length_range, List.length_range, List.length_map, List.length_range,
      Nat.min_eq_left h]
  · intro i h1 h2
    rw [List.getElem_zip, List.getElem_range, List.getElem_range, List.getElem_map, List.getElem_range]

/-- the two-series body: `zip` stops at the shorter side, so any second length `≥ len` gives the same
run (`E2E2` speaks of the one at `len2 = len`) -/
theorem rolling2_apply_iter_eq (len len2 w : Nat) (hw : 1 ≤ w) (h2 : len ≤ len2) :
    GenDrv.rolling2_apply.run len len2 w = some ((iterIdx len w).map fun p => (p.1.map (fun s => (s, s)), (p.2, p.2))) := by
  have : decide (w > 0) = true := decide_eq_true hw
  simp only [GenDrv.rolling2_apply.run, this, Bool.not_true, Bool.false_eq_true, if_false, iterIdx]
  have ha : List.replicate (w - 1) (none : Option (Nat × Nat)) ++ List.map some ((List.range len).map fun i => (i, i))
      = (List.replicate (w - 1) none ++ List.map some (List.range len)).map (Option.map fun s => (s, s)) := by
    simp [List.map_append, List.map_replicate, List.map_map, Function.comp_def]
  rw [zip_range_of_le h2, ha, List.zip_map]
  simp [List.map_map, Function.comp_def]

theorem rolling_apply_idx_iter_eq (len w : Nat) (hw : 1 ≤ w) :
    GenDrv.rolling_apply_idx.run len w = some ((iterIdx len w).map fun p => (p.1, p.2, p.2)) := by
  have : decide (w > 0) = true := decide_eq_true hw
  simp only [GenDrv.rolling_apply_idx.run, this, Bool.not_true, Bool.false_eq_true, if_false, iterIdx,
    Nat.sub_zero, ← List.range_eq_range']
  congr 1
  apply List.ext_getElem
  · simp
  · intro i h1 h2
    simp only [List.length_map, List.length_zipIdx, List.length_zip, List.length_range, List.length_append,
      List.length_replicate] at h1
    simp [List.getElem_zipIdx]

/-- likewise for any second length `≥ len` (`E2EIdx2` speaks of the run at `len2 = len`) -/
theorem rolling2_apply_idx_iter_eq (len len2 w : Nat) (hw : 1 ≤ w) (h2 : len ≤ len2) :
    GenDrv.rolling2_apply_idx.run len len2 w = some ((iterIdx len w).map fun p => (p.1, p.2, (p.2, p.2))) := by
  have : decide (w > 0) = true := decide_eq_true hw
  simp only [GenDrv.rolling2_apply_idx.run, this, Bool.not_true, Bool.false_eq_true, if_false, iterIdx,
    Nat.sub_zero, ← List.range_eq_range', zip_range_of_le h2]
  congr 1
  apply List.ext_getElem
  · simp
  · intro i h1 h2
    simp only [List.length_map, List.length_zipIdx, List.length_zip, List.length_range, List.length_append,
      List.length_replicate] at h1
    simp [List.getElem_zipIdx]

/-- `rolling_custom_iter` hands the closure the slice `start.unwrap_or(0) .. end + 1` -/
theorem rolling_custom_iter_eq (len w : Nat) (hw : 1 ≤ w) :
    GenDrv.rolling_custom_iter.run len w = some ((iterIdx len w).map fun p => (p.1.getD 0, p.2 + 1)) := by
  simp only [GenDrv.rolling_custom_iter.run, iterIdx, Nat.sub_zero, Nat.add_sub_cancel, ← List.range_eq_range']
  congr 1
  apply List.ext_getElem
  · simp
  · intro i h1 h2
    simp only [List.length_map, List.length_zip, List.length_range, List.length_append, List.length_range',
      List.length_replicate] at h1
    -- entry `i` of `replicate (w - 1) 0 ++ range len` is `getD 0` of entry `i` of
    -- `replicate (w - 1) none ++ (range len).map some`: `0` before `w - 1`, `i - (w - 1)` from there on
    simp only [List.getElem_map, List.getElem_zip, List.getElem_range', Nat.one_mul, List.getElem_append,
      List.length_replicate, List.getElem_replicate, List.getElem_range, dite_eq_ite, Prod.mk.injEq]
    split <;> simp <;> omega

/-- the callback arguments a closure receives when the regenerated `rolling_apply_to` log is
replayed on a series: element at the reported removed index (if any) and element at the added index -/
def callsOfLogTo {α : Type} (xs : List α) (log : List (Nat × Option Nat × Nat)) : List (Option α × α) :=
  log.filterMap fun ev => (xs[ev.2.2]?).map fun v => (ev.2.1.bind (xs[·]?), v)

/-- the same for the log of the iterator body `rolling_apply`, whose events carry no write position -/
def callsOfLogIter {α : Type} (xs : List α) (log : List (Option Nat × Nat)) : List (Option α × α) :=
  log.filterMap fun ev => (xs[ev.2]?).map fun v => (ev.1.bind (xs[·]?), v)

theorem applyCalls_to_of_log {α : Type} (xs : List α) (w : Nat) (hw : 1 ≤ w) :
    ∃ log, GenDrv.rolling_apply_to.run xs.length w = some log ∧ applyCalls .to xs w = callsOfLogTo xs log := by
  refine ⟨_, rolling_apply_to_eq xs.length w (Or.inl hw), ?_⟩
  unfold applyCalls callsOfLogTo Shape.idx
  rw [List.filterMap_map]
  refine List.filterMap_congr fun ⟨s, e⟩ _ => ?_
  simp only [Function.comp]
  cases xs[e]? <;> rfl

theorem applyCalls_iter_of_log {α : Type} (xs : List α) (w : Nat) (hw : 1 ≤ w) :
    ∃ log, GenDrv.rolling_apply.run xs.length w = some log ∧ applyCalls .iter xs w = callsOfLogIter xs log := by
  refine ⟨_, rolling_apply_iter_eq xs.length w hw, ?_⟩
  unfold applyCalls callsOfLogIter Shape.idx
  refine List.filterMap_congr fun ⟨s, e⟩ _ => ?_
  simp only [] -- reduces the destructuring `fun (s, e) => …` so that `xs[e]?` shows
  cases xs[e]? <;> rfl

def calls2OfLogTo {α β : Type} (xs : List α) (ys : List β) (log : List (Nat × Option (Nat × Nat) × (Nat × Nat))) :
    List (Option (α × β) × (α × β)) :=
  log.filterMap fun ev =>
    match xs[ev.2.2.1]?, ys[ev.2.2.2]? with
    | some a, some b => some (ev.2.1.bind (fun p => match xs[p.1]?, ys[p.2]? with
                                        | some x, some y => some (x, y) | _, _ => none), (a, b))
    | _, _ => none

def calls2OfLogIter {α β : Type} (xs : List α) (ys : List β) (log : List (Option (Nat × Nat) × (Nat × Nat))) :
    List (Option (α × β) × (α × β)) :=
  log.filterMap fun ev =>
    match xs[ev.2.1]?, ys[ev.2.2]? with
    | some a, some b => some (ev.1.bind (fun p => match xs[p.1]?, ys[p.2]? with
                                        | some x, some y => some (x, y) | _, _ => none), (a, b))
    | _, _ => none

theorem apply2Calls_to_of_log {α β : Type} (xs : List α) (ys : List β) (w : Nat) (hw : 1 ≤ w)
    (hlen : xs.length ≤ ys.length) :
    ∃ log, GenDrv.rolling2_apply_to.run xs.length ys.length w = some log ∧
      apply2Calls .to xs ys w = calls2OfLogTo xs ys log := by
  refine ⟨_, rolling2_apply_to_eq xs.length ys.length w (Or.inl hw) hlen, ?_⟩
  unfold apply2Calls calls2OfLogTo Shape.idx
  rw [List.filterMap_map]
  exact List.filterMap_congr fun ⟨s, e⟩ _ => by cases s <;> rfl

theorem apply2Calls_iter_of_log {α β : Type} (xs : List α) (ys : List β) (w : Nat) (hw : 1 ≤ w) :
    ∃ log, GenDrv.rolling2_apply.run xs.length xs.length w = some log ∧
      apply2Calls .iter xs ys w = calls2OfLogIter xs ys log := by
  refine ⟨_, rolling2_apply_iter_eq xs.length xs.length w hw (Nat.le_refl _), ?_⟩
  unfold apply2Calls calls2OfLogIter Shape.idx
  rw [List.filterMap_map]
  exact List.filterMap_congr fun ⟨s, e⟩ _ => by cases s <;> rfl

def idxCallsOfLogTo {α : Type} (xs : List α) (log : List (Nat × Option Nat × Nat × Nat)) :
    List (Option Nat × Nat × α) :=
  log.filterMap fun ev => (xs[ev.2.2.2]?).map fun v => (ev.2.1, ev.2.2.1, v)

def idxCallsOfLogIter {α : Type} (xs : List α) (log : List (Option Nat × Nat × Nat)) :
    List (Option Nat × Nat × α) :=
  log.filterMap fun ev => (xs[ev.2.2]?).map fun v => (ev.1, ev.2.1, v)

theorem idxCalls_to_of_log {α : Type} (xs : List α) (w : Nat) (hw : 1 ≤ w) :
    ∃ log, GenDrv.rolling_apply_idx_to.run xs.length w = some log ∧ idxCalls .to xs w = idxCallsOfLogTo xs log := by
  refine ⟨_, rolling_apply_idx_to_eq xs.length w (Or.inl hw), ?_⟩
  unfold idxCalls idxCallsOfLogTo Shape.idx
  rw [List.filterMap_map]
  apply List.filterMap_congr
  rintro ⟨s, e⟩ _
  rfl

theorem idxCalls_iter_of_log {α : Type} (xs : List α) (w : Nat) (hw : 1 ≤ w) :
    ∃ log, GenDrv.rolling_apply_idx.run xs.length w = some log ∧ idxCalls .iter xs w = idxCallsOfLogIter xs log := by
  refine ⟨_, rolling_apply_idx_iter_eq xs.length w hw, ?_⟩
  unfold idxCalls idxCallsOfLogIter Shape.idx
  rw [List.filterMap_map]
  apply List.filterMap_congr
  rintro ⟨s, e⟩ _
  rfl

/-! ### end-to-end statements: a property of the callback sequence holds for the replay of the
regenerated driver's log, for both driver shapes

`E2E* P …` says that `P` holds of the callback list obtained by replaying the log of the regenerated
`*_to` driver, and of that of the regenerated iterator body. In the two-series forms `E2E2` and
`E2EIdx2` the iterator body is run with the second length equal to the first. -/

/-- two callback sequences, each the replay of a driver's log: what holds of both holds of the replays -/
theorem e2e_of_logs {L M C : Type} {rt : Option L} {ri : Option M} {ct : L → C} {ci : M → C} {a b : C}
    (ht : ∃ log, rt = some log ∧ a = ct log) (hi : ∃ log, ri = some log ∧ b = ci log) (P : C → Prop)
    (ha : P a) (hb : P b) : (∃ log, rt = some log ∧ P (ct log)) ∧ (∃ log, ri = some log ∧ P (ci log)) :=
  ⟨ht.imp fun _ ⟨h, e⟩ => ⟨h, e ▸ ha⟩, hi.imp fun _ ⟨h, e⟩ => ⟨h, e ▸ hb⟩⟩

def E2E {α : Type} (P : List (Option α × α) → Prop) (xs : List α) (w : Nat) : Prop :=
  (∃ log, GenDrv.rolling_apply_to.run xs.length w = some log ∧ P (callsOfLogTo xs log)) ∧
  (∃ log, GenDrv.rolling_apply.run xs.length w = some log ∧ P (callsOfLogIter xs log))

theorem e2e_apply {α : Type} (P : List (Option α × α) → Prop) (xs : List α) (w : Nat) (hw : 1 ≤ w)
    (hto : P (applyCalls .to xs w)) (hit : P (applyCalls .iter xs w)) : E2E P xs w :=
  e2e_of_logs (applyCalls_to_of_log xs w hw) (applyCalls_iter_of_log xs w hw) P hto hit

def E2E2 {α β : Type} (P : List (Option (α × β) × (α × β)) → Prop) (xs : List α) (ys : List β) (w : Nat) : Prop :=
  (∃ log, GenDrv.rolling2_apply_to.run xs.length ys.length w = some log ∧ P (calls2OfLogTo xs ys log)) ∧
  (∃ log, GenDrv.rolling2_apply.run xs.length xs.length w = some log ∧ P (calls2OfLogIter xs ys log))

theorem e2e_apply2 {α β : Type} (P : List (Option (α × β) × (α × β)) → Prop) (xs : List α) (ys : List β)
    (w : Nat) (hw : 1 ≤ w) (hlen : xs.length ≤ ys.length)
    (hto : P (apply2Calls .to xs ys w)) (hit : P (apply2Calls .iter xs ys w)) : E2E2 P xs ys w :=
  e2e_of_logs (apply2Calls_to_of_log xs ys w hw hlen) (apply2Calls_iter_of_log xs ys w hw) P hto hit

def E2EIdx {α : Type} (P : List (Option Nat × Nat × α) → Prop) (xs : List α) (w : Nat) : Prop :=
  (∃ log, GenDrv.rolling_apply_idx_to.run xs.length w = some log ∧ P (idxCallsOfLogTo xs log)) ∧
  (∃ log, GenDrv.rolling_apply_idx.run xs.length w = some log ∧ P (idxCallsOfLogIter xs log))

theorem e2e_idx {α : Type} (P : List (Option Nat × Nat × α) → Prop) (xs : List α) (w : Nat) (hw : 1 ≤ w)
    (hto : P (idxCalls .to xs w)) (hit : P (idxCalls .iter xs w)) : E2EIdx P xs w :=
  e2e_of_logs (idxCalls_to_of_log xs w hw) (idxCalls_iter_of_log xs w hw) P hto hit

def idx2CallsOfLogTo {α β : Type} (xs : List α) (ys : List β) (log : List (Nat × Option Nat × Nat × (Nat × Nat))) :
    List (Option Nat × Nat × (α × β)) :=
  log.filterMap fun ev =>
    match xs[ev.2.2.2.1]?, ys[ev.2.2.2.2]? with
    | some a, some b => some (ev.2.1, ev.2.2.1, (a, b))
    | _, _ => none

def idx2CallsOfLogIter {α β : Type} (xs : List α) (ys : List β) (log : List (Option Nat × Nat × (Nat × Nat))) :
    List (Option Nat × Nat × (α × β)) :=
  log.filterMap fun ev =>
    match xs[ev.2.2.1]?, ys[ev.2.2.2]? with
    | some a, some b => some (ev.1, ev.2.1, (a, b))
    | _, _ => none

theorem idx2Calls_to_of_log {α β : Type} (xs : List α) (ys : List β) (w : Nat) (hw : 1 ≤ w)
    (hlen : xs.length ≤ ys.length) :
    ∃ log, GenDrv.rolling2_apply_idx_to.run xs.length ys.length w = some log ∧
      idx2Calls .to xs ys w = idx2CallsOfLogTo xs ys log := by
  refine ⟨_, rolling2_apply_idx_to_eq xs.length ys.length w (Or.inl hw) hlen, ?_⟩
  unfold idx2Calls idx2CallsOfLogTo Shape.idx
  rw [List.filterMap_map]
  exact List.filterMap_congr fun ⟨s, e⟩ _ => rfl

theorem idx2Calls_iter_of_log {α β : Type} (xs : List α) (ys : List β) (w : Nat) (hw : 1 ≤ w) :
    ∃ log, GenDrv.rolling2_apply_idx.run xs.length xs.length w = some log ∧
      idx2Calls .iter xs ys w = idx2CallsOfLogIter xs ys log := by
  refine ⟨_, rolling2_apply_idx_iter_eq xs.length xs.length w hw (Nat.le_refl _), ?_⟩
  unfold idx2Calls idx2CallsOfLogIter Shape.idx
  rw [List.filterMap_map]
  exact List.filterMap_congr fun ⟨s, e⟩ _ => rfl

def E2EIdx2 {α β : Type} (P : List (Option Nat × Nat × (α × β)) → Prop) (xs : List α) (ys : List β) (w : Nat) : Prop :=
  (∃ log, GenDrv.rolling2_apply_idx_to.run xs.length ys.length w = some log ∧ P (idx2CallsOfLogTo xs ys log)) ∧
  (∃ log, GenDrv.rolling2_apply_idx.run xs.length xs.length w = some log ∧ P (idx2CallsOfLogIter xs ys log))

theorem e2e_idx2 {α β : Type} (P : List (Option Nat × Nat × (α × β)) → Prop) (xs : List α) (ys : List β)
    (w : Nat) (hw : 1 ≤ w) (hlen : xs.length ≤ ys.length)
    (hto : P (idx2Calls .to xs ys w)) (hit : P (idx2Calls .iter xs ys w)) : E2EIdx2 P xs ys w :=
  e2e_of_logs (idx2Calls_to_of_log xs ys w hw hlen) (idx2Calls_iter_of_log xs ys w hw) P hto hit

/-- the slices a closure receives when the regenerated `rolling_custom_to` log is replayed on a series -/
def customCallsOfLogTo {α : Type} (xs : List α) (log : List (Nat × (Nat × Nat))) : List (List α) :=
  log.map fun ev => xs.extract ev.2.1 ev.2.2

def customCallsOfLogIter {α : Type} (xs : List α) (log : List (Nat × Nat)) : List (List α) :=
  log.map fun ev => xs.extract ev.1 ev.2

theorem customCalls_to_of_log {α : Type} (xs : List α) (w : Nat) (hw : 1 ≤ w) :
    ∃ log, GenDrv.rolling_custom_to.run xs.length w = some log ∧ customCalls .to xs w = customCallsOfLogTo xs log := by
  refine ⟨_, rolling_custom_to_eq xs.length w (Or.inl hw), ?_⟩
  unfold customCalls customCallsOfLogTo Shape.idx
  rw [List.map_map]
  apply List.map_congr_left
  rintro ⟨s, e⟩ _
  rfl

theorem customCalls_iter_of_log {α : Type} (xs : List α) (w : Nat) (hw : 1 ≤ w) :
    ∃ log, GenDrv.rolling_custom_iter.run xs.length w = some log ∧ customCalls .iter xs w = customCallsOfLogIter xs log := by
  refine ⟨_, rolling_custom_iter_eq xs.length w hw, ?_⟩
  unfold customCalls customCallsOfLogIter Shape.idx
  rw [List.map_map]
  apply List.map_congr_left
  rintro ⟨s, e⟩ _
  rfl

def E2ECustom {α : Type} (P : List (List α) → Prop) (xs : List α) (w : Nat) : Prop :=
  (∃ log, GenDrv.rolling_custom_to.run xs.length w = some log ∧ P (customCallsOfLogTo xs log)) ∧
  (∃ log, GenDrv.rolling_custom_iter.run xs.length w = some log ∧ P (customCallsOfLogIter xs log))

theorem e2e_custom {α : Type} (P : List (List α) → Prop) (xs : List α) (w : Nat) (hw : 1 ≤ w)
    (hto : P (customCalls .to xs w)) (hit : P (customCalls .iter xs w)) : E2ECustom P xs w :=
  e2e_of_logs (customCalls_to_of_log xs w hw) (customCalls_iter_of_log xs w hw) P hto hit

/-- every override of a rolling method in backends_impl/vec.rs and ndarray.rs binds `len` to
`self.len()`, passes the caller's buffer, or a fresh buffer of `len` slots, to the `*_to` driver of
the same name; arc.rs forwards to the pointee's method of the same name (table re-extracted from
the sources on every run) -/
theorem backendOverrides_match :
    Generated.backendOverrides =
      (["vec.rs", "ndarray.rs"].flatMap fun f =>
        ["rolling_custom", "rolling_apply", "rolling2_apply", "rolling_apply_idx", "rolling2_apply_idx"].map fun m =>
          (f, m, "self.len()", m ++ "_to", m ++ "_to", "len")) ++
      (["rolling_custom", "rolling_apply", "rolling2_apply", "rolling_apply_idx", "rolling2_apply_idx"].map fun m =>
          ("arc.rs", m, "forward", m, "", "")) := by decide +kernel

theorem iterFunctions_present :
    GenDrv.iterFunctions = ["rolling_apply", "rolling2_apply", "rolling_apply_idx", "rolling2_apply_idx",
      "rolling_custom_iter"] := rfl

theorem functions_present :
    GenDrv.functions = ["rolling_apply_to", "rolling2_apply_to", "rolling_apply_idx_to", "rolling2_apply_idx_to",
      "rolling_custom_to"] := rfl

end Tv.C02Gen
