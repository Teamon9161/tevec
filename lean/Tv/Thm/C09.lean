import Tv.Lemmas.C09
import Tv.Lemmas.C09Range
import Tv.Generated
/-!
  C09 — trusted-length iterators yield exactly as many items as they announce.

  `Exact it` (Tv/Spec/C09Len.lean): after `f` items were taken from the front and `b` from the
  back (`f + b ≤ length`) the upper bound of `size_hint` is `length - f - b`.

  Every library construction is exact for *all* parameters, and shift-like constructions preserve
  the length of their input.  Arbitrary pipelines (`Pipe`: a source, double-ended std adaptors, then
  any sequence of library adaptors) are exact, by induction over the pipeline.  Consequently the raw
  collectors return a fully initialised container holding exactly the remaining items, at every
  point of the consumption.  The pinned tree violates the property (F12, F13, F36): concrete witnesses.
-/
namespace Tv.C09
open It

/-- `MapBasic::shift` (repaired) / `MapValidBasic::vshift`: for every `i32` lag `n`, including
`|n| ≥ len` and empty input, the result is exact and has the length of the input. -/
theorem shiftCore_exact (n : Int) (v : α) {src : It α} (h : Exact src) :
    ∃ r, shiftCore n v src = .ok r ∧ Exact r ∧ r.len = src.len := by
  unfold shiftCore
  rw [h.hintLen]
  simp only [bind, Except.bind, pure, Except.pure]
  by_cases h1 : src.len ≤ n.natAbs
  · simp only [h1, if_true]
    exact ⟨_, rfl, repeatN_exact _ _, repeatN_len _ _⟩
  · simp only [h1, if_false]
    by_cases h2 : n > 0
    · simp only [h2, if_true]
      exact ⟨_, rfl, trust_exact_len (by simp only [chain_len, take_len, repeatN_len]; exact shift_pos_len h1)⟩
    · simp only [h2, if_false]
      by_cases h3 : n < 0
      · simp only [h3, if_true]
        exact ⟨_, rfl, trust_exact_len (by simp only [chain_len, skip_len, repeatN_len]; exact Nat.sub_add_cancel (Nat.le_of_not_le h1))⟩
      · simp only [h3, if_false]
        exact ⟨_, rfl, h, rfl⟩

/-- `MapBasic::shift(n, value)` -/
theorem shift_exact (n : Int) (v : α) {src : It α} (h : Exact src) :
    ∃ r, shift n v src = .ok r ∧ Exact r ∧ r.len = src.len := shiftCore_exact n v h

/-- `MapValidBasic::vshift(n, value)` -/
theorem vshift_exact (n : Int) (v : Option E) {src : It E} (h : Exact src) :
    ∃ r, vshift n v src = .ok r ∧ Exact r ∧ r.len = src.len := shiftCore_exact n _ h

/-- `vabs`, `ffill_mask`, `ffill`, `fill_mask`, `fill` (the model's `mapLike`): a `Map`; `abs`,
`enumerate`, `iter_cast` are the same std adaptor (`map_exact`) -/
theorem mapLike_exact (g : α → α) {src : It α} (h : Exact src) :
    Exact (mapLike g src) ∧ (mapLike g src).len = src.len :=
  ⟨map_exact g h, map_len g src⟩

/-- `vclip(lower, upper)`, all four bound shapes -/
theorem vclip_exact (lo hi : Option Rat) {src : It E} (h : Exact src) :
    Exact (vclip lo hi src) ∧ (vclip lo hi src).len = src.len := by
  cases lo <;> cases hi
  · exact ⟨h, rfl⟩
  · exact ⟨map_exact _ h, map_len _ _⟩
  · exact ⟨map_exact _ h, map_len _ _⟩
  · exact ⟨map_exact _ h, map_len _ _⟩

/-- `bfill_mask` / `bfill`: the raw collector it runs internally is given an exact iterator, so the
construction succeeds, and the reversed `vec::IntoIter` it returns is exact. -/
theorem bfill_exact (v : Option (Option β)) {src : It (Option β)} (h : Exact src) :
    ∃ r, bfill v src = .ok r ∧ Exact r ∧ r.len = src.len := by
  unfold bfill
  rw [collectTrusted_exact (ffill_exact v (rev_exact h))]
  refine ⟨_, rfl, rev_exact (ofList_exact _), ?_⟩
  rw [rev_len, ofList_len, ← It.len, ffill_len, rev_len]

/-- `vcut(bins, labels, right, add_bounds)` is a `Map` when there is one label per bin -/
theorem vcut_exact {bins labels : List Rat} {ab : Bool}
    (hc : if ab then labels.length = bins.length + 1 else labels.length + 1 = bins.length)
    (right : Bool) {src : It E} (h : Exact src) :
    ∃ r, vcut bins labels right ab src = .ok r ∧ Exact r ∧ r.len = src.len := by
  unfold vcut
  cases ab
  · rw [if_neg Bool.false_ne_true]
    exact ⟨_, if_neg (not_not_intro hc), map_exact _ h, map_len _ _⟩
  · rw [if_pos rfl]
    exact ⟨_, if_neg (not_not_intro hc), map_exact _ h, map_len _ _⟩

theorem vcut_error {bins labels : List Rat} {ab : Bool}
    (hc : ¬ if ab then labels.length = bins.length + 1 else labels.length + 1 = bins.length)
    (right : Bool) (src : It E) : vcut bins labels right ab src = .error "E" := by
  unfold vcut
  cases ab
  · rw [if_neg Bool.false_ne_true]
    exact if_pos hc
  · rw [if_pos rfl]
    exact if_pos hc

/-- `vdiff(n, value)`: exact and input-length for every lag -/
theorem vdiff_exact (n : Int) (v : Option E) (xs : List E) :
    Exact (vdiff n v xs) ∧ (vdiff n v xs).len = xs.length := by
  unfold vdiff
  simp only
  split
  · exact ⟨repeatN_exact _ _, repeatN_len _ _⟩
  · rename_i h1
    split
    · exact trust_exact_len (by
        simp only [zipWith_len, chain_len, take_len, skip_len, repeatN_len, ofList_len]
        exact vdiff_pos_len h1)
    · exact trust_exact_len (by
        simp only [zipWith_len, chain_len, skip_len, repeatN_len, ofList_len]
        exact lag_neg_len h1)

/-- `vpct_change(n)` -/
theorem vpctChange_exact (n : Int) (xs : List E) :
    Exact (vpctChange n xs) ∧ (vpctChange n xs).len = xs.length := by
  unfold vpctChange
  simp only
  split
  · exact ⟨repeatN_exact _ _, repeatN_len _ _⟩
  · rename_i h1
    split
    · exact trust_exact_len (by
        simp only [zipWith_len, chain_len, take_len, map_len, repeatN_len, ofList_len]
        exact vpct_pos_len h1)
    · exact trust_exact_len (by
        simp only [zipWith_len, chain_len, skip_len, repeatN_len, ofList_len]
        exact lag_neg_len h1)

/-- `varg_partition(kth, sort, rev)`: exactly `kth + 1` indices for every `kth` (also `kth ≥ len`,
empty input, all-null input), in every branch -/
theorem vargPartition_exact (kth : Nat) (sort rev : Bool) (xs : List E) :
    Exact (vargPartition kth sort rev xs) ∧ (vargPartition kth sort rev xs).len = kth + 1 := by
  unfold vargPartition
  simp only
  split
  · split <;> exact trust_exact_len (padTake_len _ _ _)
  · rename_i hn
    have hlen : kth + 1 ≤ xs.length := Nat.le_trans (Nat.le_of_not_le hn) (countValid_le xs)
    refine trust_exact_len ?_
    simp only [ofList_len, List.length_map, List.length_take, List.length_mergeSort, List.length_range]
    exact Nat.min_eq_left hlen

/-- `vpartition(kth, sort, rev)`: exact, with `kth + 1` entries, in every branch (the sorted short
branch pads with nulls up to `kth + 1` — repaired, F19) -/
theorem vpartition_exact (kth : Nat) (sort rev : Bool) (xs : List E) :
    Exact (vpartition kth sort rev xs) ∧ (vpartition kth sort rev xs).len = kth + 1 := by
  unfold vpartition
  simp only
  split
  · rename_i h
    exact trust_exact_len h.1
  · split
    · split <;> exact trust_exact_len (padTake_len _ _ _)
    · rename_i hn
      have hlen : kth + 1 ≤ xs.length := Nat.le_trans (Nat.le_of_not_le hn) (countValid_le xs)
      refine trust_exact_len ?_
      simp only [ofList_len, List.length_take, List.length_mergeSort]
      exact Nat.min_eq_left hlen

/-- `winsorize`: `iter_cast` optionally followed by `vclip`, for whatever bounds the aggregations
return -/
theorem winsorize_exact (bounds : Option (Option Rat × Option Rat)) (xs : List E) :
    Exact (winsorize bounds xs) ∧ (winsorize bounds xs).len = xs.length := by
  unfold winsorize
  cases bounds with
  | none => exact ⟨map_exact _ (ofList_exact _), map_len _ _⟩
  | some p =>
    have := vclip_exact p.1 p.2 (map_exact id (ofList_exact xs))
    exact ⟨this.1, this.2.trans (map_len _ _)⟩

/-- the lazy rolling iterator `rolling_custom_iter(window, f)`: for every `window ≥ 1`
(also `window > len`) exact and input-length -/
theorem rollingCustomIter_exact (w : Nat) (hw : 1 ≤ w) (g : List α → β) (xs : List α) :
    ∃ r, rollingCustomIter w g xs = .ok r ∧ Exact r ∧ r.len = xs.length := by
  unfold rollingCustomIter
  have : ¬ w = 0 := by omega
  simp only [this, if_false]
  refine ⟨_, rfl, trust_exact_len ?_⟩
  simp only [zipWith_len, chain_len, repeatN_len, ofList_len, List.length_map, List.length_range]
  omega

/-- `linspace(a, b, n)` yields `n` items and is exact from either end -/
theorem linspace_exact (a b : Rat) (n : Nat) : Exact (linspace a b n) ∧ (linspace a b n).len = n :=
  ⟨linspaceIt_exact _ _, linspaceIt_len _ _⟩

/-- `range(a, b, step)` is exact from either end -/
theorem range_exact (a b s : Rat) : Exact (range a b s) := linspaceIt_exact _ _

theorem src_exact (s : Src) : Exact s.eval := by
  cases s with
  | titer xs => exact ofList_exact xs
  | chain xs ys => exact chain_exact (ofList_exact _) (ofList_exact _)
  | zip xs ys => exact zipWith_exact _ (ofList_exact _) (ofList_exact _)
  | linspace n => exact map_exact _ (linspace_exact 0 1 n).1
  | range a b s => exact map_exact _ (range_exact _ _ _)
  | repeatN n => exact repeatN_exact _ _

theorem deop_exact {it : It E} (h : Exact it) (d : DeOp) : Exact (d.eval it) := by
  cases d with
  | rev => exact rev_exact h
  | map => exact map_exact _ h
  | trust => exact trust_exact _ rfl
  | next => exact advF_exact h
  | nextBack => exact advB_exact h

theorem source_exact (p : Pipe) : Exact p.source :=
  List.foldlRecOn p.de DeOp.eval (src_exact p.src) fun _ h d _ => deop_exact h d

/-- the shape every case of `op_sound` is brought to: `o.eval it` and `o.specLen it.len` unfold to
`x` and `some n` -/
theorem sound_of_ok {x : Except String (It α)} {it' : It α} (he : x = .ok it') {n : Nat}
    (hx : ∃ r, x = .ok r ∧ Exact r ∧ r.len = n) : Exact it' ∧ some n = some it'.len := by
  obtain ⟨r, hr, hx, hl⟩ := hx
  rw [hr] at he; cases he
  exact ⟨hx, congrArg some hl.symm⟩

/-- every library adaptor maps an exact iterator to an exact iterator (or reports an error), and
the result has the number of items the specification asks for -/
theorem op_sound {it it' : It E} (h : Exact it) (o : Op) (he : o.eval it = .ok it') :
    Exact it' ∧ o.specLen it.len = some it'.len := by
  cases o with
  | abs | vabs | fill v => exact sound_of_ok he ⟨_, rfl, map_exact _ h, map_len _ _⟩
  | enumerate => exact sound_of_ok he ⟨_, rfl, map_exact _ (map_exact _ h), (map_len _ _).trans (map_len _ _)⟩
  | ffill v => exact sound_of_ok he ⟨_, rfl, ffill_exact v h, ffill_len v it⟩
  | bfill v => exact sound_of_ok he (bfill_exact v h)
  | vclip lo hi => exact sound_of_ok he ⟨_, rfl, vclip_exact lo hi h⟩
  | shift n v => exact sound_of_ok he (shift_exact n v h)
  | vshift n v => exact sound_of_ok he (vshift_exact n v h)
  | vcut bins labels right ab =>
    by_cases hc : if ab then labels.length = bins.length + 1 else labels.length + 1 = bins.length
    · exact (sound_of_ok he (vcut_exact hc right h)).imp_right (if_pos hc).trans
    · cases (vcut_error hc right it).symm.trans he
  | take k => exact sound_of_ok he ⟨_, rfl, take_exact h k, (take_len it k).trans (Nat.min_comm ..)⟩
  | next => exact sound_of_ok he ⟨_, rfl, advF_exact h, advF_len it⟩
  | chainWith ys => exact sound_of_ok he ⟨_, rfl, chain_exact h (ofList_exact ys), chain_len _ _⟩
  | zipWith ys => exact sound_of_ok he ⟨_, rfl, zipWith_exact _ h (ofList_exact ys), zipWith_len _ _ _⟩
  | vdiff n v => exact sound_of_ok he ⟨_, rfl, vdiff_exact n v _⟩
  | vpct n => exact sound_of_ok he ⟨_, rfl, vpctChange_exact n _⟩
  | vargPart k s r =>
    have hp := vargPartition_exact k s r it.items
    exact sound_of_ok he ⟨_, rfl, map_exact _ hp.1, (map_len _ _).trans hp.2⟩
  | vpart k s r => exact sound_of_ok he ⟨_, rfl, vpartition_exact k s r _⟩
  | winsorize bounds => exact sound_of_ok he ⟨_, rfl, winsorize_exact bounds _⟩
  | rolling w =>
    cases w with
    | zero => cases he
    | succ w => exact sound_of_ok he (rollingCustomIter_exact _ (Nat.succ_pos w) (fun l => some (l.length : Rat)) it.items)

theorem evalOps_sound {it it' : It E} (h : Exact it) (ops : List Op) (he : evalOps it ops = .ok it') :
    Exact it' ∧ specLenOps it.len ops = some it'.len := by
  induction ops generalizing it with
  | nil => cases he; exact ⟨h, rfl⟩
  | cons o os ih =>
    simp only [evalOps] at he
    split at he
    · rename_i it1 h1
      obtain ⟨he1, hl1⟩ := op_sound h o h1
      simp only [specLenOps, hl1]
      exact ih he1 he
    · cases he

/-- **C09, main theorem.** Whatever iterator a pipeline of library adaptors of any depth hands
out — any source, any stack of double-ended std adaptors and partial consumption before the first
adaptor, any adaptor parameters — it announces, at every point of its consumption from either
end, exactly the number of items it will still yield. -/
theorem pipeline_exact (p : Pipe) {it : It E} (he : p.eval = .ok it) : Exact it :=
  (evalOps_sound (source_exact p) p.ops he).1

/-- an adaptor application is well formed: rolling window `≥ 1` (DESIGN 5.6) and one label per bin -/
def Op.WellFormed : Op → Prop
  | .rolling w => 1 ≤ w
  | .vcut bins labels _ ab => if ab then labels.length = bins.length + 1 else labels.length + 1 = bins.length
  | _ => True

theorem op_total {it : It E} (h : Exact it) (o : Op) (hw : o.WellFormed) : ∃ it', o.eval it = .ok it' := by
  cases o with
  | bfill v => exact (bfill_exact v h).imp fun _ => And.left
  | shift n v => exact (shift_exact n v h).imp fun _ => And.left
  | vshift n v => exact (vshift_exact n v h).imp fun _ => And.left
  | vcut bins labels right ab => exact (vcut_exact hw right h).imp fun _ => And.left
  | rolling w =>
    exact (rollingCustomIter_exact w hw (fun l => some (l.length : Rat)) it.items).imp fun _ => And.left
  | _ => exact ⟨_, rfl⟩

/-- a pipeline of well-formed adaptor applications never panics and never reports an error: no
`unwrap` on a missing upper bound, no underflow for lags larger than the series -/
theorem pipeline_total (p : Pipe) (hw : ∀ o ∈ p.ops, o.WellFormed) : ∃ it, p.eval = .ok it := by
  have h := source_exact p
  unfold Pipe.eval
  generalize p.source = it at h ⊢
  generalize p.ops = ops at hw ⊢
  induction ops generalizing it with
  | nil => exact ⟨it, rfl⟩
  | cons o os ih =>
    obtain ⟨it1, h1⟩ := op_total h o (hw o List.mem_cons_self)
    obtain ⟨it2, h2⟩ := ih it1 (op_sound h o h1).1 fun o' ho' => hw o' (List.mem_cons_of_mem o ho')
    exact ⟨it2, by simp only [evalOps, h1, h2]⟩

/-- collecting an exact iterator with `collect_from_trusted` returns exactly its items: nothing is
written outside the allocation and no slot is left uninitialised -/
theorem collect_exact {it : It α} (h : Exact it) : collectTrusted it = .ok it.items :=
  collectTrusted_exact h

/-- the collectors are safe on the output of every pipeline -/
theorem pipeline_collect (p : Pipe) {it : It E} (he : p.eval = .ok it) (f b : Nat) (hb : f + b ≤ it.len) :
    collectAfter it f b = .ok ((it.items.drop f).take (it.len - f - b)) :=
  collectAfter_exact (pipeline_exact p he) f b hb

/-- conversely the collector is *only* safe on an iterator whose hint is its item count -/
theorem collect_ok_iff (it : It α) : (∃ xs, collectTrusted it = .ok xs) ↔ it.upper 0 0 = some it.len := by
  unfold collectTrusted collectAfter
  simp only [Nat.sub_zero, List.drop_zero, List.take_length, It.len]
  constructor
  · intro ⟨xs, h⟩
    split at h
    · cases h
    · rename_i cap hc
      rw [hc]
      split at h
      · rename_i hl; rw [hl]
      · split at h <;> cases h
  · intro h
    rw [h]
    exact ⟨it.items, by simp⟩

/-- a shift-like adaptor (shift, vshift, vdiff, vpct_change, fills, clip, abs, cut, winsorize,
rolling) preserves the length of its input, for all parameters -/
theorem shiftlike_len {it it' : It E} (h : Exact it) (o : Op) (he : o.eval it = .ok it')
    (hs : match o with
      | .abs | .vabs | .enumerate | .ffill _ | .bfill _ | .fill _ | .vclip _ _ | .shift _ _ | .vshift _ _
      | .vcut _ _ _ _ | .vdiff _ _ | .vpct _ | .winsorize _ | .rolling _ => True
      | _ => False) :
    it'.len = it.len := by
  have hl := (op_sound h o he).2
  cases o with
  | vcut bins labels right ab =>
    exact (Option.some.inj (Option.ite_none_right_eq_some.1 hl).2).symm
  | take k | next | chainWith ys | zipWith ys | vargPart k s r | vpart k s r => exact hs.elim
  | _ => exact (Option.some.inj hl).symm

theorem deop_len_spec (it : It E) (d : DeOp) : d.specLen it.len = (d.eval it).len := by
  symm
  cases d with
  | rev => exact rev_len it
  | map => exact map_len id it
  | trust => rfl
  | next => exact advF_len it
  | nextBack => exact advB_len it

/-- `Vec1Create::range` is called with a non-zero step -/
def Src.WellFormed : Src → Prop
  | .range _ _ s => s ≠ 0
  | _ => True

theorem src_len_spec (s : Src) (hs : s.WellFormed) : s.specLen = s.eval.len := by
  symm
  cases s with
  | titer xs => rfl
  | chain xs ys => exact chain_len _ _
  | zip xs ys => exact zipWith_len _ _ _
  | linspace n => exact (map_len _ _).trans (linspaceIt_len _ _)
  | range a b s => exact (map_len _ _).trans ((linspaceIt_len _ _).trans (range_count a b s hs))
  | repeatN n => exact repeatN_len _ _

/-- **model = spec.** A pipeline that evaluates yields exactly the number of items the
from-scratch specification `Pipe.specLen` prescribes (length-preserving adaptors, `kth + 1`
partitions, `⌈(b-a)/s⌉` range points = the points strictly before `b`, ...). -/
theorem pipeline_len_spec (p : Pipe) (hs : p.src.WellFormed) {it : It E} (he : p.eval = .ok it) :
    p.specLen = some it.len := by
  unfold Pipe.specLen
  rw [src_len_spec _ hs, List.foldl_hom It.len deop_len_spec]
  exact (evalOps_sound (source_exact p) p.ops he).2

/-- F13: the pinned `TrustIter` keeps announcing its initial length: after one `next()` a
three-item iterator still claims three items -/
theorem trustIter_pinned_wrong :
    ¬ Exact (trustPinned (ofList [1, 2, 3]) 3) := by
  intro h
  exact absurd (h 1 0 (by decide)) (by decide)

/-- … and collecting the remainder exposes one uninitialised slot -/
theorem trustIter_pinned_uninit :
    (match collectAfter (trustPinned (ofList [1, 2, 3]) 3) 1 0 with | .uninit 1 => true | _ => false) = true := by
  decide

/-- F12: the pinned `shift(-5, 0)` of a two-item iterator yields five items under a hint of two
(three writes past the allocation in `collect_from_trusted`) -/
theorem shift_pinned_wrong :
    ∃ r, shiftPinned (-5) 0 (ofList [1, 2]) = .ok r ∧ r.len = 5 ∧ r.upper 0 0 = some 2 ∧ ¬ Exact r := by
  exact ⟨_, rfl, by decide, by decide, fun h => absurd (h 0 0 (Nat.zero_le _)) (by decide)⟩

theorem shift_pinned_overflow :
    (match (shiftPinned (-5) 0 (ofList [1, 2])).toOption.map collectTrusted with
     | some (.overflow 3) => true | _ => false) = true := by
  decide

/-- F12, other sign: the pinned `shift(3, 0)` of a two-item iterator panics (`len - n_abs`) -/
theorem shift_pinned_panics : shiftPinned 3 0 (ofList [1, 2]) = .error "P" := by
  rfl

/-- F36: the pinned tree declares `std::iter::Scan` `TrustedLen`, but a scan ends
with the first `None` of its closure: two items under a hint of five, three uninitialised slots in
the collected vector (the repair removes the declaration) -/
theorem scan_pinned_wrong :
    let it := scanPinned (fun (_ : Unit) (x : Nat) => if x > 2 then none else some ((), x)) () (ofList [1, 2, 3, 4, 5])
    it.len = 2 ∧ it.upper 0 0 = some 5 ∧ ¬ Exact it ∧
    (match collectTrusted it with | .uninit 3 => true | _ => false) = true := by
  exact ⟨by decide, by decide, fun h => absurd (h 0 0 (Nat.zero_le _)) (by decide), by decide⟩

/-- the repaired `shift` on the same inputs -/
example : ∃ r, shift (-5) 0 (ofList [1, 2]) = .ok r ∧ r.items = [0, 0] ∧ r.upper 0 0 = some 2 :=
  ⟨_, rfl, by decide, by decide⟩
example : ∃ r, shift 3 0 (ofList [1, 2]) = .ok r ∧ r.items = [0, 0] := ⟨_, rfl, by decide⟩

/-- the lag guards, the lengths asserted through `to_trust` / `TrustIter::new` and the sizes of the
`take` / `skip` / `repeat_n` adaptors that translator/extract.py reads off the Rust sources on
every run are exactly the ones the model constructions (Tv/Model/C09Iter.lean) are written with;
an edit of any of them (for instance dropping the guard of `shift` again) breaks this theorem
before a single input is run -/
theorem trustTable_matches : Tv.Generated.trustTable = [
    ("shift", true, ["len", "len"], ["repeat_n:len", "repeat_n:n_abs", "take:len-n_abs", "skip:n_abs", "repeat_n:n_abs"]),
    ("vshift", true, ["len", "len"], ["repeat_n:len", "repeat_n:n_abs", "take:len-n_abs", "skip:n_abs", "repeat_n:n_abs"]),
    ("vdiff", true, ["len", "len"], ["repeat_n:len", "repeat_n:n_abs", "take:len-n_abs", "skip:n_abs", "skip:n_abs", "repeat_n:n_abs"]),
    ("vpct_change", true, ["len", "len"], ["repeat_n:len", "repeat_n:n_abs", "take:len-n_abs", "skip:n_abs", "repeat_n:n_abs"]),
    ("varg_partition", false, ["kth+1", "kth+1", "kth+1", "kth+1"], ["take:kth+1", "take:n", "take:kth+1"]),
    ("vpartition", false, ["kth+1", "kth+1", "kth+1", "kth+1"], ["take:kth+1", "take:kth+1"]),
    ("rolling_custom_iter", false, ["self.len()"], ["repeat_n:window-1"])] := by
  decide +kernel

/-- `TrustIter::size_hint` returns the stored length, which `next` and `next_back` count down;
`Scan` is not declared `TrustedLen` -/
theorem trustIter_matches :
    Tv.Generated.trustIterHintIsLen = true ∧ Tv.Generated.trustIterCountDowns = 2 ∧
    Tv.Generated.scanDeclaredTrusted = false := by
  decide

/-- a depth-5 pipeline with a lag larger than the series, `kth ≥ len`, a window larger than the
series and a partially consumed, reversed source evaluates, and its hints count down -/
example :
    let p : Pipe := ⟨.chain [some 1, none, some 3] [some 4], [.rev, .next, .trust],
      [.vshift (-9) none, .vdiff 2 none, .rolling 7, .vpart 5 false true, .take 4]⟩
    ∃ it, p.eval = .ok it ∧ it.len = 4 ∧ it.upper 0 0 = some 4 ∧ it.upper 3 0 = some 1 := by
  refine ⟨_, rfl, ?_, ?_, ?_⟩ <;> decide

example : Exact (vdiff 7 none [some 1, some 2]) := (vdiff_exact _ _ _).1
example : (vargPartition 4 false false [none, some 2]).len = 5 := (vargPartition_exact _ _ _ _).2

end Tv.C09
