import Tv.GenClosures
import Tv.Lemmas.GenSim
import Tv.Lemmas.Features
import Tv.Lemmas.C04Run
import Tv.Thm.C05
/-!
# C05 — length and warm-up nulls of the closures regenerated from source

`Tv.Gen.<fn>.step` is written by translator/closures.py from the Rust source on every run.  For
each of the 27 translated closures this file proves, *from the regenerated code alone* (the only
model ingredient is the count of valid elements, so a change of a closed form does not disturb
these proofs):

* `<fn>_length`  — one output per input position;
* `<fn>_warmup`  — a position whose window holds fewer valid (resp. pairwise-complete) elements
  than the regenerated `min_periods` expression is the literal `f64::NAN`;
* `<fn>_minPeriods` — that expression is `min_periods.unwrap_or(window/2).min(window).max(k)`.

All three hold for every series, window ≥ 1, `min_periods` and position.  For the six index-driven
closures of cmp.rs / norm.rs (`ts_vmin`, `ts_vmax`, `ts_vargmin`, `ts_vargmax`, `ts_vrank`,
`ts_vminmaxnorm`) only `<fn>_minPeriods` stands here, against `C03.cmpMp` / `C03.normMp`; their length
and warm-up are in `C03Gen`.

Every closure is a *counting closure*: its field `n` goes up by one when a valid element is added,
down by one when a valid element is removed, and the result is the NaN literal while `n` is below
`min_periods`.  `warmup1` / `warmup2` turn these three facts about the regenerated code, which each
`<fn>_warmup` states for its closure, into the warm-up statement.
-/
namespace Tv.C05Gen
open Tv Tv.GenSim

def Masked3 (mp : Nat) (o : Option Rat × Option Rat × Option Rat) (n : Nat) : Prop := n < mp → o = (none, none, none)

/-- the count of valid elements in the window, as a rolling closure -/
def cnt1 : Roll Mom (Option Rat) Nat :=
  { init := Mom.zero, add := Mom.add, emit := fun m => m.n, remove := Mom.remove }
abbrev cnt2 : Roll C04.Cross C04.Pair Nat := C04.crossRoll (fun m => m.n)

theorem cnt1_run (sh : Shape) (xs : List (Option Rat)) (w : Nat) (hw : 1 ≤ w) :
    cnt1.run Mom.zero (applyCalls sh xs w) = (List.range xs.length).map fun i => (vwin xs i w).length :=
  momRun_exact (fun m => m.n) (fun l => l.length) momOf_n sh xs w hw

theorem cnt2_run (sh : Shape) (xs ys : List (Option Rat)) (w : Nat) (hw : 1 ≤ w) (hlen : ys.length = xs.length) :
    cnt2.run C04.Cross.zero (apply2Calls sh xs ys w)
      = (List.range xs.length).map fun i => (C04.Spec.complete (window (xs.zip ys) i w)).length :=
  C04.cross_run _ sh xs ys w hw hlen

theorem effMp_zero (mp : Option Nat) (w : Nat) : effMp mp w 0 = min (mp.getD (w / 2)) w := Nat.max_zero _

theorem ite_ge_of_lt {β : Type} {n mp : Nat} (h : n < mp) (a b : β) : (if decide (n ≥ mp) then a else b) = b :=
  if_neg (by rw [decide_eq_true_eq]; exact Nat.not_le.2 h)

theorem length1 {σ α β : Type} (step : σ → Option α → α → σ × β) (s : σ) (sh : Shape) (xs : List α) (w : Nat)
    (hw : 1 ≤ w) : (genRun step s (applyCalls sh xs w)).length = xs.length :=
  (genRun_length step s _).trans (C02.applyCalls_length sh xs w hw)

theorem length2 {σ β : Type} (step : σ → Option C04.Pair → C04.Pair → σ × β) (s : σ) (sh : Shape)
    (xs ys : List (Option Rat)) (w : Nat) (hw : 1 ≤ w) (hlen : ys.length = xs.length) :
    (genRun step s (apply2Calls sh xs ys w)).length = xs.length := by
  -- the length of `apply2Calls` is read off the run of the counting closure over it
  have := congrArg List.length (cnt2_run sh xs ys w hw hlen)
  rw [run_length, List.length_map, List.length_range] at this
  rw [genRun_length, this]

/-- **Counting closures.**  `c` is a model closure that emits a count.  A generated closure whose
counter `cnt` moves with the count of `c` in every step, and whose result is `z` while the counter
is below `mp`, reports `z` wherever the run of `c` reports fewer than `mp`. -/
theorem masked_of_step {σ τ α α' β : Type} (ι : α → α') (c : Roll τ α' Nat) (cnt : σ → Nat) {mp : Nat} {z : β}
    {step : σ → Option α → α → σ × β}
    (hstep : ∀ g m rm v, cnt g = c.emit m →
      cnt (step g rm v).1 = c.emit (c.step m (rm.map ι) (ι v)).1 ∧
      ((c.step m (rm.map ι) (ι v)).2 < mp → (step g rm v).2 = z))
    {g : σ} {m : τ} (h0 : cnt g = c.emit m) (cs : List (Option α × α)) {i n : Nat}
    (hn : (c.run m (mapCalls ι cs))[i]? = some n) (hlt : n < mp) : (genRun step g cs)[i]? = some z := by
  obtain ⟨o, ho, hm⟩ := getElem?_of_forall₂
    (run_sim ι step c (fun g m => cnt g = c.emit m) (fun o n => n < mp → o = z) hstep cs g m h0) hn
  rw [ho, hm hlt]

/-- the same for a closure printed in parts (`step_eq`, `pre_eq`), from one fact about each part -/
theorem masked_of_parts {σ τ α α' β : Type} (ι : α → α') (c : Roll τ α' Nat) (cnt : σ → Nat) {mp : Nat} {z : β}
    {step : σ → Option α → α → σ × β} {pre : σ → α → σ × β} {post : σ → Option α → σ}
    {add : σ → α → σ} {emit : σ → α → β}
    (hs : ∀ s rm v, step s rm v = (post (pre s v).1 rm, (pre s v).2))
    (hp : ∀ s v, pre s v = (add s v, emit (add s v) v))
    (hadd : ∀ g m v, cnt g = c.emit m → cnt (add g v) = c.emit (c.add m (ι v)))
    (hpost : ∀ g m x, cnt g = c.emit m → cnt (post g (some x)) = c.emit (c.remove m (ι x)))
    (hpost0 : ∀ g, post g none = g)
    (hemit : ∀ g v, cnt g < mp → emit g v = z)
    {g : σ} {m : τ} (h0 : cnt g = c.emit m) (cs : List (Option α × α)) {i n : Nat}
    (hn : (c.run m (mapCalls ι cs))[i]? = some n) (hlt : n < mp) : (genRun step g cs)[i]? = some z :=
  masked_of_step ι c cnt
    (hstep_of_parts ι step pre post add emit c _ (fun o n => n < mp → o = z) hs hp hadd hpost hpost0
      (fun g _ v h hlt => hemit g v (h ▸ hlt))) h0 cs hn hlt

theorem cnt1_at {α : Type} (ι : α → Option Rat) (sh : Shape) (xs : List α) (w : Nat) (hw : 1 ≤ w) (i : Nat)
    (hi : i < xs.length) :
    (cnt1.run Mom.zero (mapCalls ι (applyCalls sh xs w)))[i]? = some (vwin (xs.map ι) i w).length := by
  rw [← applyCalls_map, cnt1_run sh _ w hw, List.length_map, List.getElem?_map, List.getElem?_range hi]; rfl

/-- one-series closures: the counter counts the non-null elements (`ι` embeds the element type of a
plain closure, all of whose elements count) -/
theorem warmup1 {σ α β : Type} (ι : α → Option Rat) (cnt : σ → Nat) {mp : Nat} {z : β} {init : σ}
    {step : σ → Option α → α → σ × β} {pre : σ → α → σ × β} {post : σ → Option α → σ}
    {add : σ → α → σ} {emit : σ → α → β}
    (hs : ∀ s rm v, step s rm v = (post (pre s v).1 rm, (pre s v).2))
    (hp : ∀ s v, pre s v = (add s v, emit (add s v) v))
    (hadd : ∀ g v, cnt (add g v) = if (ι v).isSome then cnt g + 1 else cnt g)
    (hpost : ∀ g x, cnt (post g (some x)) = if (ι x).isSome then cnt g - 1 else cnt g)
    (hpost0 : ∀ g, post g none = g)
    (hemit : ∀ g v, cnt g < mp → emit g v = z)
    (h0 : cnt init = 0) (sh : Shape) (xs : List α) (w : Nat) (hw : 1 ≤ w) (i : Nat) (hi : i < xs.length)
    (h : (vwin (xs.map ι) i w).length < mp) : (genRun step init (applyCalls sh xs w))[i]? = some z := by
  refine masked_of_parts ι cnt1 cnt hs hp (fun g m v e => ?_) (fun g m x e => ?_) hpost0 hemit
    (m := Mom.zero) h0 _ (cnt1_at ι sh xs w hw i hi) h
  · rw [hadd, e]; cases ι v <;> rfl
  · rw [hpost, e]; cases ι x <;> rfl

/-- two-series closures: the counter counts the pairs with both components non-null -/
theorem warmup2 {σ β : Type} (cnt : σ → Nat) {mp : Nat} {z : β} {init : σ}
    {step : σ → Option C04.Pair → C04.Pair → σ × β} {pre : σ → C04.Pair → σ × β} {post : σ → Option C04.Pair → σ}
    {add : σ → C04.Pair → σ} {emit : σ → C04.Pair → β}
    (hs : ∀ s rm v, step s rm v = (post (pre s v).1 rm, (pre s v).2))
    (hp : ∀ s v, pre s v = (add s v, emit (add s v) v))
    (hadd : ∀ g v, cnt (add g v) = if v.1.isSome && v.2.isSome then cnt g + 1 else cnt g)
    (hpost : ∀ g x, cnt (post g (some x)) = if x.1.isSome && x.2.isSome then cnt g - 1 else cnt g)
    (hpost0 : ∀ g, post g none = g)
    (hemit : ∀ g v, cnt g < mp → emit g v = z)
    (h0 : cnt init = 0) (sh : Shape) (xs ys : List (Option Rat)) (w : Nat) (hw : 1 ≤ w)
    (hlen : ys.length = xs.length) (i : Nat) (hi : i < xs.length)
    (h : (C04.Spec.complete (window (xs.zip ys) i w)).length < mp) :
    (genRun step init (apply2Calls sh xs ys w))[i]? = some z := by
  refine masked_of_parts id cnt2 cnt hs hp (fun g m v e => ?_) (fun g m x e => ?_) hpost0 hemit
    (m := C04.Cross.zero) h0 _ ?_ h
  · rw [hadd, e]; obtain ⟨a, b⟩ := v; cases a <;> cases b <;> rfl
  · rw [hpost, e]; obtain ⟨a, b⟩ := x; cases a <;> cases b <;> rfl
  · rw [mapCalls_id, cnt2_run sh xs ys w hw hlen, List.getElem?_map, List.getElem?_range hi]; rfl

theorem ts_vsum_minPeriods (w : Nat) (mp : Option Nat) : Gen.ts_vsum.minPeriods w mp = effMp mp w 0 :=
  (effMp_zero mp w).symm
theorem ts_vsum_length (sqrt : Rat → Rat) (sh : Shape) (xs : List (Option Rat)) (w mp : Nat) (hw : 1 ≤ w) :
    (genRun (Gen.ts_vsum.step sqrt w mp) (Gen.ts_vsum.init w) (applyCalls sh xs w)).length = xs.length :=
  length1 _ _ sh xs w hw
theorem ts_vsum_warmup (sqrt : Rat → Rat) (sh : Shape) (xs : List (Option Rat)) (w mp : Nat) (hw : 1 ≤ w)
    (i : Nat) (hi : i < xs.length) (h : (vwin xs i w).length < mp) :
    (genRun (Gen.ts_vsum.step sqrt w mp) (Gen.ts_vsum.init w) (applyCalls sh xs w))[i]? = some none :=
  warmup1 id Gen.ts_vsum.St.n (Gen.ts_vsum.step_eq sqrt w mp) (Gen.ts_vsum.pre_eq sqrt w mp)
    (fun _ v => by cases v <;> rfl) (fun _ x => by cases x <;> rfl) (fun _ => rfl)
    (fun _ _ h => ite_ge_of_lt h _ _) rfl sh xs w hw i hi (by rwa [List.map_id])

theorem ts_vmean_minPeriods (w : Nat) (mp : Option Nat) : Gen.ts_vmean.minPeriods w mp = effMp mp w 0 :=
  (effMp_zero mp w).symm
theorem ts_vmean_length (sqrt : Rat → Rat) (sh : Shape) (xs : List (Option Rat)) (w mp : Nat) (hw : 1 ≤ w) :
    (genRun (Gen.ts_vmean.step sqrt w mp) (Gen.ts_vmean.init w) (applyCalls sh xs w)).length = xs.length :=
  length1 _ _ sh xs w hw
theorem ts_vmean_warmup (sqrt : Rat → Rat) (sh : Shape) (xs : List (Option Rat)) (w mp : Nat) (hw : 1 ≤ w)
    (i : Nat) (hi : i < xs.length) (h : (vwin xs i w).length < mp) :
    (genRun (Gen.ts_vmean.step sqrt w mp) (Gen.ts_vmean.init w) (applyCalls sh xs w))[i]? = some none :=
  warmup1 id Gen.ts_vmean.St.n (Gen.ts_vmean.step_eq sqrt w mp) (Gen.ts_vmean.pre_eq sqrt w mp)
    (fun _ v => by cases v <;> rfl) (fun _ x => by cases x <;> rfl) (fun _ => rfl)
    (fun _ _ h => ite_ge_of_lt h _ _) rfl sh xs w hw i hi (by rwa [List.map_id])

theorem ts_vewm_minPeriods (w : Nat) (mp : Option Nat) : Gen.ts_vewm.minPeriods w mp = effMp mp w 0 :=
  (effMp_zero mp w).symm
theorem ts_vewm_length (sqrt : Rat → Rat) (sh : Shape) (xs : List (Option Rat)) (w mp : Nat) (hw : 1 ≤ w) :
    (genRun (Gen.ts_vewm.step sqrt w mp) (Gen.ts_vewm.init w) (applyCalls sh xs w)).length = xs.length :=
  length1 _ _ sh xs w hw
theorem ts_vewm_warmup (sqrt : Rat → Rat) (sh : Shape) (xs : List (Option Rat)) (w mp : Nat) (hw : 1 ≤ w)
    (i : Nat) (hi : i < xs.length) (h : (vwin xs i w).length < mp) :
    (genRun (Gen.ts_vewm.step sqrt w mp) (Gen.ts_vewm.init w) (applyCalls sh xs w))[i]? = some none :=
  warmup1 id Gen.ts_vewm.St.n (Gen.ts_vewm.step_eq sqrt w mp) (Gen.ts_vewm.pre_eq sqrt w mp)
    (fun _ v => by cases v <;> rfl) (fun _ x => by cases x <;> rfl) (fun _ => rfl)
    (fun _ _ h => ite_ge_of_lt h _ _) rfl sh xs w hw i hi (by rwa [List.map_id])

theorem ts_vwma_minPeriods (w : Nat) (mp : Option Nat) : Gen.ts_vwma.minPeriods w mp = effMp mp w 0 :=
  (effMp_zero mp w).symm
theorem ts_vwma_length (sqrt : Rat → Rat) (sh : Shape) (xs : List (Option Rat)) (w mp : Nat) (hw : 1 ≤ w) :
    (genRun (Gen.ts_vwma.step sqrt w mp) (Gen.ts_vwma.init w) (applyCalls sh xs w)).length = xs.length :=
  length1 _ _ sh xs w hw
theorem ts_vwma_warmup (sqrt : Rat → Rat) (sh : Shape) (xs : List (Option Rat)) (w mp : Nat) (hw : 1 ≤ w)
    (i : Nat) (hi : i < xs.length) (h : (vwin xs i w).length < mp) :
    (genRun (Gen.ts_vwma.step sqrt w mp) (Gen.ts_vwma.init w) (applyCalls sh xs w))[i]? = some none :=
  warmup1 id Gen.ts_vwma.St.n (Gen.ts_vwma.step_eq sqrt w mp) (Gen.ts_vwma.pre_eq sqrt w mp)
    (fun _ v => by cases v <;> rfl) (fun _ x => by cases x <;> rfl) (fun _ => rfl)
    (fun _ _ h => ite_ge_of_lt h _ _) rfl sh xs w hw i hi (by rwa [List.map_id])

theorem ts_vstd_minPeriods (w : Nat) (mp : Option Nat) : Gen.ts_vstd.minPeriods w mp = effMp mp w 2 := rfl
theorem ts_vstd_length (sqrt : Rat → Rat) (sh : Shape) (xs : List (Option Rat)) (w mp : Nat) (hw : 1 ≤ w) :
    (genRun (Gen.ts_vstd.step sqrt w mp) (Gen.ts_vstd.init w) (applyCalls sh xs w)).length = xs.length :=
  length1 _ _ sh xs w hw
theorem ts_vstd_warmup (sqrt : Rat → Rat) (sh : Shape) (xs : List (Option Rat)) (w mp : Nat) (hw : 1 ≤ w)
    (i : Nat) (hi : i < xs.length) (h : (vwin xs i w).length < mp) :
    (genRun (Gen.ts_vstd.step sqrt w mp) (Gen.ts_vstd.init w) (applyCalls sh xs w))[i]? = some none :=
  warmup1 id Gen.ts_vstd.St.n (Gen.ts_vstd.step_eq sqrt w mp) (Gen.ts_vstd.pre_eq sqrt w mp)
    (fun _ v => by cases v <;> rfl) (fun _ x => by cases x <;> rfl) (fun _ => rfl)
    (fun _ _ h => ite_ge_of_lt h _ _) rfl sh xs w hw i hi (by rwa [List.map_id])

theorem ts_vvar_minPeriods (w : Nat) (mp : Option Nat) : Gen.ts_vvar.minPeriods w mp = effMp mp w 2 := rfl
theorem ts_vvar_length (sqrt : Rat → Rat) (sh : Shape) (xs : List (Option Rat)) (w mp : Nat) (hw : 1 ≤ w) :
    (genRun (Gen.ts_vvar.step sqrt w mp) (Gen.ts_vvar.init w) (applyCalls sh xs w)).length = xs.length :=
  length1 _ _ sh xs w hw
theorem ts_vvar_warmup (sqrt : Rat → Rat) (sh : Shape) (xs : List (Option Rat)) (w mp : Nat) (hw : 1 ≤ w)
    (i : Nat) (hi : i < xs.length) (h : (vwin xs i w).length < mp) :
    (genRun (Gen.ts_vvar.step sqrt w mp) (Gen.ts_vvar.init w) (applyCalls sh xs w))[i]? = some none :=
  warmup1 id Gen.ts_vvar.St.n (Gen.ts_vvar.step_eq sqrt w mp) (Gen.ts_vvar.pre_eq sqrt w mp)
    (fun _ v => by cases v <;> rfl) (fun _ x => by cases x <;> rfl) (fun _ => rfl)
    (fun _ _ h => ite_ge_of_lt h _ _) rfl sh xs w hw i hi (by rwa [List.map_id])

theorem ts_vskew_minPeriods (w : Nat) (mp : Option Nat) : Gen.ts_vskew.minPeriods w mp = effMp mp w 3 := rfl
theorem ts_vskew_length (sqrt : Rat → Rat) (sh : Shape) (xs : List (Option Rat)) (w mp : Nat) (hw : 1 ≤ w) :
    (genRun (Gen.ts_vskew.step sqrt w mp) (Gen.ts_vskew.init w) (applyCalls sh xs w)).length = xs.length :=
  length1 _ _ sh xs w hw
theorem ts_vskew_warmup (sqrt : Rat → Rat) (sh : Shape) (xs : List (Option Rat)) (w mp : Nat) (hw : 1 ≤ w)
    (i : Nat) (hi : i < xs.length) (h : (vwin xs i w).length < mp) :
    (genRun (Gen.ts_vskew.step sqrt w mp) (Gen.ts_vskew.init w) (applyCalls sh xs w))[i]? = some none :=
  warmup1 id Gen.ts_vskew.St.n (Gen.ts_vskew.step_eq sqrt w mp) (Gen.ts_vskew.pre_eq sqrt w mp)
    (fun _ v => by cases v <;> rfl) (fun _ x => by cases x <;> rfl) (fun _ => rfl)
    (fun _ _ h => ite_ge_of_lt h _ _) rfl sh xs w hw i hi (by rwa [List.map_id])

theorem ts_vkurt_minPeriods (w : Nat) (mp : Option Nat) : Gen.ts_vkurt.minPeriods w mp = effMp mp w 4 := rfl
theorem ts_vkurt_length (sqrt : Rat → Rat) (sh : Shape) (xs : List (Option Rat)) (w mp : Nat) (hw : 1 ≤ w) :
    (genRun (Gen.ts_vkurt.step sqrt w mp) (Gen.ts_vkurt.init w) (applyCalls sh xs w)).length = xs.length :=
  length1 _ _ sh xs w hw
theorem ts_vkurt_warmup (sqrt : Rat → Rat) (sh : Shape) (xs : List (Option Rat)) (w mp : Nat) (hw : 1 ≤ w)
    (i : Nat) (hi : i < xs.length) (h : (vwin xs i w).length < mp) :
    (genRun (Gen.ts_vkurt.step sqrt w mp) (Gen.ts_vkurt.init w) (applyCalls sh xs w))[i]? = some none :=
  warmup1 id Gen.ts_vkurt.St.n (Gen.ts_vkurt.step_eq sqrt w mp) (Gen.ts_vkurt.pre_eq sqrt w mp)
    (fun _ v => by cases v <;> rfl) (fun _ x => by cases x <;> rfl) (fun _ => rfl)
    (fun _ _ h => ite_ge_of_lt h _ _) rfl sh xs w hw i hi (by rwa [List.map_id])

theorem ts_vreg_add (w : Nat) (g : Gen.ts_vreg.St) (m : Mom) (v : Option Rat) (h : g.n = m.n) :
    (Gen.ts_vreg.add w g v).n = (cnt1.add m v).n := by
  cases v <;> [exact h; exact congrArg (· + 1) h]
theorem ts_vreg_minPeriods (w : Nat) (mp : Option Nat) : Gen.ts_vreg.minPeriods w mp = effMp mp w 0 :=
  (effMp_zero mp w).symm
theorem ts_vreg_length (sqrt : Rat → Rat) (sh : Shape) (xs : List (Option Rat)) (w mp : Nat) (hw : 1 ≤ w) :
    (genRun (Gen.ts_vreg.step sqrt w mp) (Gen.ts_vreg.init w) (applyCalls sh xs w)).length = xs.length :=
  length1 _ _ sh xs w hw
theorem ts_vreg_warmup (sqrt : Rat → Rat) (sh : Shape) (xs : List (Option Rat)) (w mp : Nat) (hw : 1 ≤ w)
    (i : Nat) (hi : i < xs.length) (h : (vwin xs i w).length < mp) :
    (genRun (Gen.ts_vreg.step sqrt w mp) (Gen.ts_vreg.init w) (applyCalls sh xs w))[i]? = some none :=
  warmup1 id Gen.ts_vreg.St.n (Gen.ts_vreg.step_eq sqrt w mp) (Gen.ts_vreg.pre_eq sqrt w mp)
    (fun _ v => by cases v <;> rfl) (fun _ x => by cases x <;> rfl) (fun _ => rfl)
    (fun _ _ h => ite_ge_of_lt h _ _) rfl sh xs w hw i hi (by rwa [List.map_id])

theorem ts_vtsf_minPeriods (w : Nat) (mp : Option Nat) : Gen.ts_vtsf.minPeriods w mp = effMp mp w 0 :=
  (effMp_zero mp w).symm
theorem ts_vtsf_length (sqrt : Rat → Rat) (sh : Shape) (xs : List (Option Rat)) (w mp : Nat) (hw : 1 ≤ w) :
    (genRun (Gen.ts_vtsf.step sqrt w mp) (Gen.ts_vtsf.init w) (applyCalls sh xs w)).length = xs.length :=
  length1 _ _ sh xs w hw
theorem ts_vtsf_warmup (sqrt : Rat → Rat) (sh : Shape) (xs : List (Option Rat)) (w mp : Nat) (hw : 1 ≤ w)
    (i : Nat) (hi : i < xs.length) (h : (vwin xs i w).length < mp) :
    (genRun (Gen.ts_vtsf.step sqrt w mp) (Gen.ts_vtsf.init w) (applyCalls sh xs w))[i]? = some none :=
  warmup1 id Gen.ts_vtsf.St.n (Gen.ts_vtsf.step_eq sqrt w mp) (Gen.ts_vtsf.pre_eq sqrt w mp)
    (fun _ v => by cases v <;> rfl) (fun _ x => by cases x <;> rfl) (fun _ => rfl)
    (fun _ _ h => ite_ge_of_lt h _ _) rfl sh xs w hw i hi (by rwa [List.map_id])

theorem ts_vreg_slope_minPeriods (w : Nat) (mp : Option Nat) : Gen.ts_vreg_slope.minPeriods w mp = effMp mp w 0 :=
  (effMp_zero mp w).symm
theorem ts_vreg_slope_length (sqrt : Rat → Rat) (sh : Shape) (xs : List (Option Rat)) (w mp : Nat) (hw : 1 ≤ w) :
    (genRun (Gen.ts_vreg_slope.step sqrt w mp) (Gen.ts_vreg_slope.init w) (applyCalls sh xs w)).length = xs.length :=
  length1 _ _ sh xs w hw
theorem ts_vreg_slope_warmup (sqrt : Rat → Rat) (sh : Shape) (xs : List (Option Rat)) (w mp : Nat) (hw : 1 ≤ w)
    (i : Nat) (hi : i < xs.length) (h : (vwin xs i w).length < mp) :
    (genRun (Gen.ts_vreg_slope.step sqrt w mp) (Gen.ts_vreg_slope.init w) (applyCalls sh xs w))[i]? = some none :=
  warmup1 id Gen.ts_vreg_slope.St.n (Gen.ts_vreg_slope.step_eq sqrt w mp) (Gen.ts_vreg_slope.pre_eq sqrt w mp)
    (fun _ v => by cases v <;> rfl) (fun _ x => by cases x <;> rfl) (fun _ => rfl)
    (fun _ _ h => ite_ge_of_lt h _ _) rfl sh xs w hw i hi (by rwa [List.map_id])

theorem ts_vreg_intercept_minPeriods (w : Nat) (mp : Option Nat) : Gen.ts_vreg_intercept.minPeriods w mp = effMp mp w 0 :=
  (effMp_zero mp w).symm
theorem ts_vreg_intercept_length (sqrt : Rat → Rat) (sh : Shape) (xs : List (Option Rat)) (w mp : Nat) (hw : 1 ≤ w) :
    (genRun (Gen.ts_vreg_intercept.step sqrt w mp) (Gen.ts_vreg_intercept.init w) (applyCalls sh xs w)).length = xs.length :=
  length1 _ _ sh xs w hw
theorem ts_vreg_intercept_warmup (sqrt : Rat → Rat) (sh : Shape) (xs : List (Option Rat)) (w mp : Nat) (hw : 1 ≤ w)
    (i : Nat) (hi : i < xs.length) (h : (vwin xs i w).length < mp) :
    (genRun (Gen.ts_vreg_intercept.step sqrt w mp) (Gen.ts_vreg_intercept.init w) (applyCalls sh xs w))[i]? = some none :=
  warmup1 id Gen.ts_vreg_intercept.St.n (Gen.ts_vreg_intercept.step_eq sqrt w mp) (Gen.ts_vreg_intercept.pre_eq sqrt w mp)
    (fun _ v => by cases v <;> rfl) (fun _ x => by cases x <;> rfl) (fun _ => rfl)
    (fun _ _ h => ite_ge_of_lt h _ _) rfl sh xs w hw i hi (by rwa [List.map_id])

theorem ts_vreg_resid_mean_minPeriods (w : Nat) (mp : Option Nat) : Gen.ts_vreg_resid_mean.minPeriods w mp = effMp mp w 0 :=
  (effMp_zero mp w).symm
theorem ts_vreg_resid_mean_length (sqrt : Rat → Rat) (sh : Shape) (xs : List (Option Rat)) (w mp : Nat) (hw : 1 ≤ w) :
    (genRun (Gen.ts_vreg_resid_mean.step sqrt w mp) (Gen.ts_vreg_resid_mean.init w) (applyCalls sh xs w)).length = xs.length :=
  length1 _ _ sh xs w hw
theorem ts_vreg_resid_mean_warmup (sqrt : Rat → Rat) (sh : Shape) (xs : List (Option Rat)) (w mp : Nat) (hw : 1 ≤ w)
    (i : Nat) (hi : i < xs.length) (h : (vwin xs i w).length < mp) :
    (genRun (Gen.ts_vreg_resid_mean.step sqrt w mp) (Gen.ts_vreg_resid_mean.init w) (applyCalls sh xs w))[i]? = some none :=
  warmup1 id Gen.ts_vreg_resid_mean.St.n (Gen.ts_vreg_resid_mean.step_eq sqrt w mp) (Gen.ts_vreg_resid_mean.pre_eq sqrt w mp)
    (fun _ v => by cases v <;> rfl) (fun _ x => by cases x <;> rfl) (fun _ => rfl)
    (fun _ _ h => ite_ge_of_lt h _ _) rfl sh xs w hw i hi (by rwa [List.map_id])

theorem ts_sum_minPeriods (w : Nat) (mp : Option Nat) : Gen.ts_sum.minPeriods w mp = effMp mp w 0 :=
  (effMp_zero mp w).symm
theorem ts_sum_length (sqrt : Rat → Rat) (sh : Shape) (xs : List Rat) (w mp : Nat) (hw : 1 ≤ w) :
    (genRun (Gen.ts_sum.step sqrt w mp) (Gen.ts_sum.init w) (applyCalls sh xs w)).length = xs.length :=
  length1 _ _ sh xs w hw
theorem ts_sum_warmup (sqrt : Rat → Rat) (sh : Shape) (xs : List Rat) (w mp : Nat) (hw : 1 ≤ w)
    (i : Nat) (hi : i < xs.length) (h : (vwin (xs.map some) i w).length < mp) :
    (genRun (Gen.ts_sum.step sqrt w mp) (Gen.ts_sum.init w) (applyCalls sh xs w))[i]? = some none :=
  warmup1 some Gen.ts_sum.St.n (Gen.ts_sum.step_eq sqrt w mp) (Gen.ts_sum.pre_eq sqrt w mp)
    (fun _ _ => rfl) (fun _ _ => rfl) (fun _ => rfl)
    (fun _ _ h => ite_ge_of_lt h _ _) rfl sh xs w hw i hi h

theorem ts_mean_minPeriods (w : Nat) (mp : Option Nat) : Gen.ts_mean.minPeriods w mp = effMp mp w 0 :=
  (effMp_zero mp w).symm
theorem ts_mean_length (sqrt : Rat → Rat) (sh : Shape) (xs : List Rat) (w mp : Nat) (hw : 1 ≤ w) :
    (genRun (Gen.ts_mean.step sqrt w mp) (Gen.ts_mean.init w) (applyCalls sh xs w)).length = xs.length :=
  length1 _ _ sh xs w hw
theorem ts_mean_warmup (sqrt : Rat → Rat) (sh : Shape) (xs : List Rat) (w mp : Nat) (hw : 1 ≤ w)
    (i : Nat) (hi : i < xs.length) (h : (vwin (xs.map some) i w).length < mp) :
    (genRun (Gen.ts_mean.step sqrt w mp) (Gen.ts_mean.init w) (applyCalls sh xs w))[i]? = some none :=
  warmup1 some Gen.ts_mean.St.n (Gen.ts_mean.step_eq sqrt w mp) (Gen.ts_mean.pre_eq sqrt w mp)
    (fun _ _ => rfl) (fun _ _ => rfl) (fun _ => rfl)
    (fun _ _ h => ite_ge_of_lt h _ _) rfl sh xs w hw i hi h

theorem ts_ewm_minPeriods (w : Nat) (mp : Option Nat) : Gen.ts_ewm.minPeriods w mp = effMp mp w 0 :=
  (effMp_zero mp w).symm
theorem ts_ewm_length (sqrt : Rat → Rat) (sh : Shape) (xs : List Rat) (w mp : Nat) (hw : 1 ≤ w) :
    (genRun (Gen.ts_ewm.step sqrt w mp) (Gen.ts_ewm.init w) (applyCalls sh xs w)).length = xs.length :=
  length1 _ _ sh xs w hw
theorem ts_ewm_warmup (sqrt : Rat → Rat) (sh : Shape) (xs : List Rat) (w mp : Nat) (hw : 1 ≤ w)
    (i : Nat) (hi : i < xs.length) (h : (vwin (xs.map some) i w).length < mp) :
    (genRun (Gen.ts_ewm.step sqrt w mp) (Gen.ts_ewm.init w) (applyCalls sh xs w))[i]? = some none :=
  warmup1 some Gen.ts_ewm.St.n (Gen.ts_ewm.step_eq sqrt w mp) (Gen.ts_ewm.pre_eq sqrt w mp)
    (fun _ _ => rfl) (fun _ _ => rfl) (fun _ => rfl)
    (fun _ _ h => ite_ge_of_lt h _ _) rfl sh xs w hw i hi h

theorem ts_wma_minPeriods (w : Nat) (mp : Option Nat) : Gen.ts_wma.minPeriods w mp = effMp mp w 0 :=
  (effMp_zero mp w).symm
theorem ts_wma_length (sqrt : Rat → Rat) (sh : Shape) (xs : List Rat) (w mp : Nat) (hw : 1 ≤ w) :
    (genRun (Gen.ts_wma.step sqrt w mp) (Gen.ts_wma.init w) (applyCalls sh xs w)).length = xs.length :=
  length1 _ _ sh xs w hw
theorem ts_wma_warmup (sqrt : Rat → Rat) (sh : Shape) (xs : List Rat) (w mp : Nat) (hw : 1 ≤ w)
    (i : Nat) (hi : i < xs.length) (h : (vwin (xs.map some) i w).length < mp) :
    (genRun (Gen.ts_wma.step sqrt w mp) (Gen.ts_wma.init w) (applyCalls sh xs w))[i]? = some none :=
  warmup1 some Gen.ts_wma.St.n (Gen.ts_wma.step_eq sqrt w mp) (Gen.ts_wma.pre_eq sqrt w mp)
    (fun _ _ => rfl) (fun _ _ => rfl) (fun _ => rfl)
    (fun _ _ h => ite_ge_of_lt h _ _) rfl sh xs w hw i hi h

theorem ts_std_add (w : Nat) (g : Gen.ts_std.St) (m : Mom) (v : Rat) (h : g.n = m.n) :
    (Gen.ts_std.add w g v).n = (cnt1.add m (some v)).n :=
  congrArg (· + 1) h
theorem ts_std_minPeriods (w : Nat) (mp : Option Nat) : Gen.ts_std.minPeriods w mp = effMp mp w 2 := rfl
theorem ts_std_length (sqrt : Rat → Rat) (sh : Shape) (xs : List Rat) (w mp : Nat) (hw : 1 ≤ w) :
    (genRun (Gen.ts_std.step sqrt w mp) (Gen.ts_std.init w) (applyCalls sh xs w)).length = xs.length :=
  length1 _ _ sh xs w hw
theorem ts_std_warmup (sqrt : Rat → Rat) (sh : Shape) (xs : List Rat) (w mp : Nat) (hw : 1 ≤ w)
    (i : Nat) (hi : i < xs.length) (h : (vwin (xs.map some) i w).length < mp) :
    (genRun (Gen.ts_std.step sqrt w mp) (Gen.ts_std.init w) (applyCalls sh xs w))[i]? = some none :=
  warmup1 some Gen.ts_std.St.n (Gen.ts_std.step_eq sqrt w mp) (Gen.ts_std.pre_eq sqrt w mp)
    (fun _ _ => rfl) (fun _ _ => rfl) (fun _ => rfl)
    (fun _ _ h => ite_ge_of_lt h _ _) rfl sh xs w hw i hi h

theorem ts_var_minPeriods (w : Nat) (mp : Option Nat) : Gen.ts_var.minPeriods w mp = effMp mp w 2 := rfl
theorem ts_var_length (sqrt : Rat → Rat) (sh : Shape) (xs : List Rat) (w mp : Nat) (hw : 1 ≤ w) :
    (genRun (Gen.ts_var.step sqrt w mp) (Gen.ts_var.init w) (applyCalls sh xs w)).length = xs.length :=
  length1 _ _ sh xs w hw
theorem ts_var_warmup (sqrt : Rat → Rat) (sh : Shape) (xs : List Rat) (w mp : Nat) (hw : 1 ≤ w)
    (i : Nat) (hi : i < xs.length) (h : (vwin (xs.map some) i w).length < mp) :
    (genRun (Gen.ts_var.step sqrt w mp) (Gen.ts_var.init w) (applyCalls sh xs w))[i]? = some none :=
  warmup1 some Gen.ts_var.St.n (Gen.ts_var.step_eq sqrt w mp) (Gen.ts_var.pre_eq sqrt w mp)
    (fun _ _ => rfl) (fun _ _ => rfl) (fun _ => rfl)
    (fun _ _ h => ite_ge_of_lt h _ _) rfl sh xs w hw i hi h

theorem ts_skew_minPeriods (w : Nat) (mp : Option Nat) : Gen.ts_skew.minPeriods w mp = effMp mp w 3 := rfl
theorem ts_skew_length (sqrt : Rat → Rat) (sh : Shape) (xs : List Rat) (w mp : Nat) (hw : 1 ≤ w) :
    (genRun (Gen.ts_skew.step sqrt w mp) (Gen.ts_skew.init w) (applyCalls sh xs w)).length = xs.length :=
  length1 _ _ sh xs w hw
theorem ts_skew_warmup (sqrt : Rat → Rat) (sh : Shape) (xs : List Rat) (w mp : Nat) (hw : 1 ≤ w)
    (i : Nat) (hi : i < xs.length) (h : (vwin (xs.map some) i w).length < mp) :
    (genRun (Gen.ts_skew.step sqrt w mp) (Gen.ts_skew.init w) (applyCalls sh xs w))[i]? = some none :=
  warmup1 some Gen.ts_skew.St.n (Gen.ts_skew.step_eq sqrt w mp) (Gen.ts_skew.pre_eq sqrt w mp)
    (fun _ _ => rfl) (fun _ _ => rfl) (fun _ => rfl)
    (fun _ _ h => ite_ge_of_lt h _ _) rfl sh xs w hw i hi h

theorem ts_kurt_minPeriods (w : Nat) (mp : Option Nat) : Gen.ts_kurt.minPeriods w mp = effMp mp w 4 := rfl
theorem ts_kurt_length (sqrt : Rat → Rat) (sh : Shape) (xs : List Rat) (w mp : Nat) (hw : 1 ≤ w) :
    (genRun (Gen.ts_kurt.step sqrt w mp) (Gen.ts_kurt.init w) (applyCalls sh xs w)).length = xs.length :=
  length1 _ _ sh xs w hw
theorem ts_kurt_warmup (sqrt : Rat → Rat) (sh : Shape) (xs : List Rat) (w mp : Nat) (hw : 1 ≤ w)
    (i : Nat) (hi : i < xs.length) (h : (vwin (xs.map some) i w).length < mp) :
    (genRun (Gen.ts_kurt.step sqrt w mp) (Gen.ts_kurt.init w) (applyCalls sh xs w))[i]? = some none :=
  warmup1 some Gen.ts_kurt.St.n (Gen.ts_kurt.step_eq sqrt w mp) (Gen.ts_kurt.pre_eq sqrt w mp)
    (fun _ _ => rfl) (fun _ _ => rfl) (fun _ => rfl)
    (fun _ _ h => ite_ge_of_lt h _ _) rfl sh xs w hw i hi h

theorem ts_vzscore_minPeriods (w : Nat) (mp : Option Nat) : Gen.ts_vzscore.minPeriods w mp = effMp mp w 0 :=
  (effMp_zero mp w).symm
theorem ts_vzscore_length (sqrt : Rat → Rat) (sh : Shape) (xs : List (Option Rat)) (w mp : Nat) (hw : 1 ≤ w) :
    (genRun (Gen.ts_vzscore.step sqrt w mp) (Gen.ts_vzscore.init w) (applyCalls sh xs w)).length = xs.length :=
  length1 _ _ sh xs w hw
/-- `ts_vzscore` computes its result inside the `not_none` branch, so only `pre` / `post` are printed -/
theorem ts_vzscore_warmup (sqrt : Rat → Rat) (sh : Shape) (xs : List (Option Rat)) (w mp : Nat) (hw : 1 ≤ w)
    (i : Nat) (hi : i < xs.length) (h : (vwin xs i w).length < mp) :
    (genRun (Gen.ts_vzscore.step sqrt w mp) (Gen.ts_vzscore.init w) (applyCalls sh xs w))[i]? = some none :=
  masked_of_step id cnt1 Gen.ts_vzscore.St.n
    (hstep_of_pre id _ (Gen.ts_vzscore.pre sqrt w mp) (Gen.ts_vzscore.post w) cnt1 (fun g m => g.n = m.n)
      (fun o n => n < mp → o = none) (Gen.ts_vzscore.step_eq sqrt w mp)
      (fun g m v e => by
        cases v with
        | none => exact ⟨e, fun _ => rfl⟩
        | some v => exact ⟨congrArg (· + 1) e, fun hlt => ite_ge_of_lt (n := g.n + 1) (by rw [e]; exact hlt) _ _⟩)
      (fun g m x e => by cases x <;> [exact e; exact congrArg (· - 1) e]) (fun _ => rfl))
    rfl _ (cnt1_at id sh xs w hw i hi) (by rwa [List.map_id])

theorem ts_vcov_minPeriods (w : Nat) (mp : Option Nat) : Gen.ts_vcov.minPeriods w mp = effMp mp w 2 := rfl
theorem ts_vcov_length (sqrt : Rat → Rat) (sh : Shape) (xs ys : List (Option Rat)) (w mp : Nat) (hw : 1 ≤ w)
    (hlen : ys.length = xs.length) :
    (genRun (Gen.ts_vcov.step sqrt w mp) (Gen.ts_vcov.init w) (apply2Calls sh xs ys w)).length = xs.length :=
  length2 _ _ sh xs ys w hw hlen
theorem ts_vcov_warmup (sqrt : Rat → Rat) (sh : Shape) (xs ys : List (Option Rat)) (w mp : Nat) (hw : 1 ≤ w)
    (hlen : ys.length = xs.length) (i : Nat) (hi : i < xs.length)
    (h : (C04.Spec.complete (window (xs.zip ys) i w)).length < mp) :
    (genRun (Gen.ts_vcov.step sqrt w mp) (Gen.ts_vcov.init w) (apply2Calls sh xs ys w))[i]? = some none :=
  warmup2 Gen.ts_vcov.St.n (Gen.ts_vcov.step_eq sqrt w mp) (Gen.ts_vcov.pre_eq sqrt w mp)
    (fun _ v => by obtain ⟨a, b⟩ := v; cases a <;> cases b <;> rfl)
    (fun _ x => by obtain ⟨a, b⟩ := x; cases a <;> cases b <;> rfl) (fun _ => rfl)
    (fun _ _ h => ite_ge_of_lt h _ _) rfl sh xs ys w hw hlen i hi h

theorem ts_vcorr_minPeriods (w : Nat) (mp : Option Nat) : Gen.ts_vcorr.minPeriods w mp = effMp mp w 0 :=
  (effMp_zero mp w).symm
theorem ts_vcorr_length (sqrt : Rat → Rat) (sh : Shape) (xs ys : List (Option Rat)) (w mp : Nat) (hw : 1 ≤ w)
    (hlen : ys.length = xs.length) :
    (genRun (Gen.ts_vcorr.step sqrt w mp) (Gen.ts_vcorr.init w) (apply2Calls sh xs ys w)).length = xs.length :=
  length2 _ _ sh xs ys w hw hlen
theorem ts_vcorr_warmup (sqrt : Rat → Rat) (sh : Shape) (xs ys : List (Option Rat)) (w mp : Nat) (hw : 1 ≤ w)
    (hlen : ys.length = xs.length) (i : Nat) (hi : i < xs.length)
    (h : (C04.Spec.complete (window (xs.zip ys) i w)).length < mp) :
    (genRun (Gen.ts_vcorr.step sqrt w mp) (Gen.ts_vcorr.init w) (apply2Calls sh xs ys w))[i]? = some none :=
  warmup2 Gen.ts_vcorr.St.n (Gen.ts_vcorr.step_eq sqrt w mp) (Gen.ts_vcorr.pre_eq sqrt w mp)
    (fun _ v => by obtain ⟨a, b⟩ := v; cases a <;> cases b <;> rfl)
    (fun _ x => by obtain ⟨a, b⟩ := x; cases a <;> cases b <;> rfl) (fun _ => rfl)
    (fun _ _ h => ite_ge_of_lt h _ _) rfl sh xs ys w hw hlen i hi h

theorem ts_vregx_alpha_minPeriods (w : Nat) (mp : Option Nat) : Gen.ts_vregx_alpha.minPeriods w mp = effMp mp w 0 :=
  (effMp_zero mp w).symm
theorem ts_vregx_alpha_length (sqrt : Rat → Rat) (sh : Shape) (xs ys : List (Option Rat)) (w mp : Nat) (hw : 1 ≤ w)
    (hlen : ys.length = xs.length) :
    (genRun (Gen.ts_vregx_alpha.step sqrt w mp) (Gen.ts_vregx_alpha.init w) (apply2Calls sh xs ys w)).length = xs.length :=
  length2 _ _ sh xs ys w hw hlen
theorem ts_vregx_alpha_warmup (sqrt : Rat → Rat) (sh : Shape) (xs ys : List (Option Rat)) (w mp : Nat) (hw : 1 ≤ w)
    (hlen : ys.length = xs.length) (i : Nat) (hi : i < xs.length)
    (h : (C04.Spec.complete (window (xs.zip ys) i w)).length < mp) :
    (genRun (Gen.ts_vregx_alpha.step sqrt w mp) (Gen.ts_vregx_alpha.init w) (apply2Calls sh xs ys w))[i]? = some none :=
  warmup2 Gen.ts_vregx_alpha.St.n (Gen.ts_vregx_alpha.step_eq sqrt w mp) (Gen.ts_vregx_alpha.pre_eq sqrt w mp)
    (fun _ v => by obtain ⟨a, b⟩ := v; cases a <;> cases b <;> rfl)
    (fun _ x => by obtain ⟨a, b⟩ := x; cases a <;> cases b <;> rfl) (fun _ => rfl)
    (fun _ _ h => ite_ge_of_lt h _ _) rfl sh xs ys w hw hlen i hi h

theorem ts_vregx_beta_minPeriods (w : Nat) (mp : Option Nat) : Gen.ts_vregx_beta.minPeriods w mp = effMp mp w 0 :=
  (effMp_zero mp w).symm
theorem ts_vregx_beta_length (sqrt : Rat → Rat) (sh : Shape) (xs ys : List (Option Rat)) (w mp : Nat) (hw : 1 ≤ w)
    (hlen : ys.length = xs.length) :
    (genRun (Gen.ts_vregx_beta.step sqrt w mp) (Gen.ts_vregx_beta.init w) (apply2Calls sh xs ys w)).length = xs.length :=
  length2 _ _ sh xs ys w hw hlen
theorem ts_vregx_beta_warmup (sqrt : Rat → Rat) (sh : Shape) (xs ys : List (Option Rat)) (w mp : Nat) (hw : 1 ≤ w)
    (hlen : ys.length = xs.length) (i : Nat) (hi : i < xs.length)
    (h : (C04.Spec.complete (window (xs.zip ys) i w)).length < mp) :
    (genRun (Gen.ts_vregx_beta.step sqrt w mp) (Gen.ts_vregx_beta.init w) (apply2Calls sh xs ys w))[i]? = some none :=
  warmup2 Gen.ts_vregx_beta.St.n (Gen.ts_vregx_beta.step_eq sqrt w mp) (Gen.ts_vregx_beta.pre_eq sqrt w mp)
    (fun _ v => by obtain ⟨a, b⟩ := v; cases a <;> cases b <;> rfl)
    (fun _ x => by obtain ⟨a, b⟩ := x; cases a <;> cases b <;> rfl) (fun _ => rfl)
    (fun _ _ h => ite_ge_of_lt h _ _) rfl sh xs ys w hw hlen i hi h

theorem ts_vregx_all_minPeriods (w : Nat) (mp : Option Nat) : Gen.ts_vregx_all.minPeriods w mp = effMp mp w 0 :=
  (effMp_zero mp w).symm
theorem ts_vregx_all_length (sqrt : Rat → Rat) (sh : Shape) (xs ys : List (Option Rat)) (w mp : Nat) (hw : 1 ≤ w)
    (hlen : ys.length = xs.length) :
    (genRun (Gen.ts_vregx_all.step sqrt w mp) (Gen.ts_vregx_all.init w) (apply2Calls sh xs ys w)).length = xs.length :=
  length2 _ _ sh xs ys w hw hlen
theorem ts_vregx_all_step (sqrt : Rat → Rat) (w mp : Nat) (g : Gen.ts_vregx_all.St) (m : C04.Cross) (rm : Option C04.Pair) (v : C04.Pair) (h : g.n = m.n) :
    (Gen.ts_vregx_all.step sqrt w mp g rm v).1.n = (cnt2.step m (rm.map id) (id v)).1.n ∧
    Masked3 mp (Gen.ts_vregx_all.step sqrt w mp g rm v).2 (cnt2.step m (rm.map id) (id v)).2 :=
  hstep_of_parts id _ _ _ _ _ cnt2 (fun g m => g.n = m.n) (Masked3 mp)
    (Gen.ts_vregx_all.step_eq sqrt w mp) (Gen.ts_vregx_all.pre_eq sqrt w mp)
    (fun g m v e => by obtain ⟨a, b⟩ := v; cases a <;> cases b <;> [exact e; exact e; exact e; exact congrArg (· + 1) e])
    (fun g m x e => by obtain ⟨a, b⟩ := x; cases a <;> cases b <;> [exact e; exact e; exact e; exact congrArg (· - 1) e])
    (fun _ => rfl) (fun g m _ e hlt => ite_ge_of_lt (e ▸ hlt) _ _) g m rm v h
theorem ts_vregx_all_warmup (sqrt : Rat → Rat) (sh : Shape) (xs ys : List (Option Rat)) (w mp : Nat) (hw : 1 ≤ w)
    (hlen : ys.length = xs.length) (i : Nat) (hi : i < xs.length)
    (h : (C04.Spec.complete (window (xs.zip ys) i w)).length < mp) :
    (genRun (Gen.ts_vregx_all.step sqrt w mp) (Gen.ts_vregx_all.init w) (apply2Calls sh xs ys w))[i]? = some (none, none, none) :=
  warmup2 Gen.ts_vregx_all.St.n (Gen.ts_vregx_all.step_eq sqrt w mp) (Gen.ts_vregx_all.pre_eq sqrt w mp)
    (fun _ v => by obtain ⟨a, b⟩ := v; cases a <;> cases b <;> rfl)
    (fun _ x => by obtain ⟨a, b⟩ := x; cases a <;> cases b <;> rfl) (fun _ => rfl)
    (fun _ _ h => ite_ge_of_lt h _ _) rfl sh xs ys w hw hlen i hi h

/-- the `min_periods` expression of the index-driven closures of cmp.rs: no clamp of an explicit value;
the window is clamped to the series length first (unless the series is empty) -/
theorem cmp_minPeriods (len w : Nat) (mp : Option Nat) (h : 1 ≤ len) :
    mp.getD ((if decide (len = 0) then w else min len w) / 2) = C03.cmpMp mp w len :=
  congrArg (fun x => mp.getD (x / 2)) (if_neg (by rw [decide_eq_true_eq]; exact Nat.ne_of_gt h))

theorem ts_vmin_minPeriods (len w : Nat) (mp : Option Nat) (h : 1 ≤ len) :
    Gen.ts_vmin.minPeriods len w mp = C03.cmpMp mp w len :=
  cmp_minPeriods len w mp h

theorem ts_vmax_minPeriods (len w : Nat) (mp : Option Nat) (h : 1 ≤ len) :
    Gen.ts_vmax.minPeriods len w mp = C03.cmpMp mp w len :=
  cmp_minPeriods len w mp h

theorem ts_vargmin_minPeriods (len w : Nat) (mp : Option Nat) (h : 1 ≤ len) :
    Gen.ts_vargmin.minPeriods len w mp = C03.cmpMp mp w len :=
  cmp_minPeriods len w mp h

theorem ts_vargmax_minPeriods (len w : Nat) (mp : Option Nat) (h : 1 ≤ len) :
    Gen.ts_vargmax.minPeriods len w mp = C03.cmpMp mp w len :=
  cmp_minPeriods len w mp h

theorem ts_vrank_minPeriods (len w : Nat) (mp : Option Nat) (h : 1 ≤ len) :
    Gen.ts_vrank.minPeriods len w mp = C03.cmpMp mp w len :=
  cmp_minPeriods len w mp h

/-- `ts_vminmaxnorm` (norm.rs): an explicit `min_periods` is clamped to the window -/
theorem ts_vminmaxnorm_minPeriods (len w : Nat) (mp : Option Nat) :
    Gen.ts_vminmaxnorm.minPeriods len w mp = C03.normMp mp w := rfl

end Tv.C05Gen
