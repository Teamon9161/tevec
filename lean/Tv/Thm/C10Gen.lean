import Tv.Thm.C02Gen
/-!
# C10 — the regenerated rolling drivers write every slot exactly once and read in bounds

For the five two-phase drivers regenerated from view.rs (`GenDrv`, see `C02Gen`): whenever the
driver does not reject its arguments, the positions it writes are exactly `0, 1, …, len-1`, each
once and in this order, and every unchecked read (`uget` index, `uslice` bounds) lies inside the
series — for every length and every window `≥ 1`.
-/
namespace Tv.C10Gen
open Tv

/-- `C02Gen.rolling_apply_to_safe`, stated again under this property -/
theorem rolling_apply_to_safe (len w : Nat) (hw : 1 ≤ w) :
    ∃ log, GenDrv.rolling_apply_to.run len w = some log ∧ log.map (·.1) = List.range len ∧
      (∀ ev ∈ log, ev.2.2 < len ∧ ∀ s, ev.2.1 = some s → s < len) :=
  C02Gen.rolling_apply_to_safe len w hw

/-- two series: the reads of the second one are in bounds because `len ≤ len2` (the driver's assertion) -/
theorem rolling2_apply_to_safe (len len2 w : Nat) (hw : 1 ≤ w) (h2 : len ≤ len2) :
    ∃ log, GenDrv.rolling2_apply_to.run len len2 w = some log ∧ log.map (·.1) = List.range len ∧
      (∀ ev ∈ log, ev.2.2.1 < len ∧ ev.2.2.2 < len2 ∧ ∀ p, ev.2.1 = some p → p.1 < len ∧ p.2 < len2) :=
  ⟨_, C02Gen.rolling2_apply_to_eq len len2 w (Or.inl hw) h2,
    C02Gen.safe_of_render len w hw (fun _ => rfl) fun i hi =>
      ⟨hi, Nat.lt_of_lt_of_le hi h2, fun p hp => by
        obtain ⟨s, hs, rfl⟩ := Option.map_eq_some_iff.1 hp
        have hs' : s < len := Nat.lt_of_le_of_lt (startAt_le hs) hi
        exact ⟨hs', Nat.lt_of_lt_of_le hs' h2⟩⟩⟩

theorem rolling_apply_idx_to_safe (len w : Nat) (hw : 1 ≤ w) :
    ∃ log, GenDrv.rolling_apply_idx_to.run len w = some log ∧ log.map (·.1) = List.range len ∧
      (∀ ev ∈ log, ev.2.2.2 < len) :=
  ⟨_, C02Gen.rolling_apply_idx_to_eq len w (Or.inl hw),
    C02Gen.safe_of_render len w hw (fun _ => rfl) fun _ hi => hi⟩

theorem rolling2_apply_idx_to_safe (len len2 w : Nat) (hw : 1 ≤ w) (h2 : len ≤ len2) :
    ∃ log, GenDrv.rolling2_apply_idx_to.run len len2 w = some log ∧ log.map (·.1) = List.range len ∧
      (∀ ev ∈ log, ev.2.2.2.1 < len ∧ ev.2.2.2.2 < len2) :=
  ⟨_, C02Gen.rolling2_apply_idx_to_eq len len2 w (Or.inl hw) h2,
    C02Gen.safe_of_render len w hw (fun _ => rfl) fun _ hi => ⟨hi, Nat.lt_of_lt_of_le hi h2⟩⟩

/-- the slice handed to a `rolling_custom` closure is non-empty and inside the series -/
theorem rolling_custom_to_safe (len w : Nat) (hw : 1 ≤ w) :
    ∃ log, GenDrv.rolling_custom_to.run len w = some log ∧ log.map (·.1) = List.range len ∧
      (∀ ev ∈ log, ev.2.1 < ev.2.2 ∧ ev.2.2 ≤ len) :=
  ⟨_, C02Gen.rolling_custom_to_eq len w (Or.inl hw),
    C02Gen.safe_of_render len w hw (fun _ => rfl) fun i hi => by
      refine ⟨?_, Nat.succ_le_of_lt hi⟩
      cases hs : startAt (min w len) i with
      | none => exact Nat.succ_pos i
      | some s => exact Nat.lt_succ_of_le (startAt_le hs)⟩

end Tv.C10Gen
