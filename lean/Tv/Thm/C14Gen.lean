import Tv.GenMap
import Tv.Thm.C14
/-!
# C14 — `vsorted_unique`, `vsorted_unique_idx` and `vcut` regenerated from tea-map/src/valid_iter.rs
are the model's (on the exact image `castL` of an integer series)
-/
namespace Tv.C14Gen
open Tv Tv.C14

/-- The exact rational an integer element denotes. The model is over `Int`, the regenerated code over
`Rat`; the theorems of this file are about the image of this embedding. -/
def castE (v : Option Int) : Option Rat := v.map fun (a : Int) => (a : Rat)
def castL (xs : List (Option Int)) : List (Option Rat) := xs.map castE

theorem castE_inj (a b : Option Int) : castE a = castE b ↔ a = b := by
  cases a <;> cases b <;> simp [castE]

/-- the lemma below for a closure that sees `e` of an enumerated item (the item itself, or
`Prod.snd` without `enumerate()`) -/
theorem filterMapSt_run_map {σ τ β γ ι : Type} (e : Nat × Option Rat → ι) (F : σ → ι → σ × Option γ)
    (step : τ → Nat → Option Int → τ × Option β) (R : σ → τ → Prop) (g : β → γ)
    (hF : ∀ s t i v, R s t →
      R (F s (e (i, castE v))).1 (step t i v).1 ∧ (F s (e (i, castE v))).2 = ((step t i v).2).map g) :
    ∀ (xs : List (Option Int)) (k : Nat) (s : σ) (t : τ), R s t →
      Gen.filterMapSt F s (((List.range' k xs.length).zip (castL xs)).map e) = (C14.run step t k xs).map g := by
  intro xs
  induction xs with
  | nil => intro k s t _; rfl
  | cons v xs ih =>
    intro k s t hr
    obtain ⟨h1, h2⟩ := hF s t k v hr
    rw [List.length_cons, List.range'_succ, castL, List.map_cons, List.zip_cons_cons, List.map_cons,
      Gen.filterMapSt, C14.run, h2]
    cases (step t k v).2 with
    | none => exact ih (k + 1) _ _ h1
    | some b => exact congrArg _ (ih (k + 1) _ _ h1)

/-- `enumerate().filter_map(closure)` against the model's `run`, from any first index, for any
generated closure `F` that acts on `(i, castE v)` as the model step acts on `(i, v)` under the
state relation `R` and the item map `g` -/
theorem filterMapSt_run {σ τ β γ : Type} (F : σ → Nat × Option Rat → σ × Option γ)
    (step : τ → Nat → Option Int → τ × Option β) (R : σ → τ → Prop) (g : β → γ)
    (hF : ∀ s t i v, R s t → R (F s (i, castE v)).1 (step t i v).1 ∧ (F s (i, castE v)).2 = ((step t i v).2).map g) :
    ∀ (xs : List (Option Int)) (k : Nat) (s : σ) (t : τ), R s t →
      Gen.filterMapSt F s ((List.range' k xs.length).zip (castL xs)) = (C14.run step t k xs).map g := by
  intro xs k s t h
  have := filterMapSt_run_map (fun p => p) F step R g hF xs k s t h
  rwa [List.map_id'] at this

theorem enumerate_eq {α : Type} (l : List α) : Gen.enumerate l = (List.range' 0 l.length).zip l := by
  simp [Gen.enumerate, List.range_eq_range']

theorem castE_some (a : Int) : castE (some a) = some (a : Rat) := rfl

theorem castE_eq_some (t : Option Int) (a : Int) : castE t = some (a : Rat) ↔ t = some a :=
  castE_inj t (some a)

theorem vsorted_unique_eq (xs : List (Option Int)) :
    GenMap.vsorted_unique.run (castL xs) = castL (C14.uniqueVals xs) := by
  unfold GenMap.vsorted_unique.run C14.uniqueVals
  rw [← List.map_snd_zip (l₁ := List.range' 0 xs.length) (l₂ := castL xs) (by simp [castL])]
  refine filterMapSt_run_map Prod.snd _ valStep (fun s t => s = castE t) castE ?_ xs 0 none none rfl
  rintro s t i (_ | a) rfl
  · exact ⟨rfl, rfl⟩
  · cases t with
    | none => exact ⟨rfl, rfl⟩
    | some l =>
      simp only [valStep, castE_some, ne_eq, Rat.intCast_inj, decide_eq_true_eq]
      split <;> exact ⟨rfl, rfl⟩

theorem vsorted_unique_idx_first_eq (xs : List (Option Int)) :
    GenMap.vsorted_unique_idx.run (castL xs) true = C14.uniqueIdxFirst xs := by
  unfold GenMap.vsorted_unique_idx.run C14.uniqueIdxFirst
  simp only [if_true, enumerate_eq]
  have hl : (castL xs).length = xs.length := List.length_map _
  rw [hl, filterMapSt_run _ firstStep (fun s t => s = castE t) id ?_ xs 0 none none rfl, List.map_id]
  rintro s t i (_ | a) rfl
  · exact ⟨rfl, rfl⟩
  · simp only [firstStep, castE_some, castE_eq_some, decide_eq_true_eq]
    split <;> exact ⟨rfl, rfl⟩

theorem vsorted_unique_idx_last_eq (xs : List (Option Int)) :
    GenMap.vsorted_unique_idx.run (castL xs) false = C14.uniqueIdxLast xs := by
  unfold GenMap.vsorted_unique_idx.run C14.uniqueIdxLast
  simp only [Bool.false_eq_true, if_false, enumerate_eq, List.map_id']
  have ht : (castL xs).tail ++ [none] = castL (xs.tail ++ [none]) := by
    cases xs with
    | nil => rfl
    | cons v xs => exact (List.map_append (f := castE) (l₁ := xs) (l₂ := [none])).symm
  have hl : (castL (xs.tail ++ [none])).length = (xs.tail ++ [none]).length := List.length_map _
  rw [ht, hl, filterMapSt_run _ lastStep (fun s t => s = castE t) id ?_ (xs.tail ++ [none]) 0 _ xs.head?.join ?_,
    List.map_id]
  · rintro s t i (_ | a) rfl
    · cases t <;> exact ⟨rfl, rfl⟩
    · simp only [lastStep, castE_some, castE_eq_some, decide_eq_true_eq]
      split
      · exact ⟨rfl, rfl⟩
      · cases t <;> exact ⟨rfl, rfl⟩
  · rcases xs with _ | ⟨_ | a, xs⟩ <;> rfl

theorem functions_present :
    "vsorted_unique" ∈ GenMap.functions ∧ "vsorted_unique_idx" ∈ GenMap.functions ∧
    GenMap.vsorted_unique.parsed = true ∧ GenMap.vsorted_unique_idx.parsed = true :=
  -- entries 14 and 15 of the generated table
  ⟨List.mem_of_mem_drop (i := 14) List.mem_cons_self, List.mem_of_mem_drop (i := 15) List.mem_cons_self, rfl, rfl⟩

theorem vsorted_unique_idx_last_spec (xs : List (Option Int)) :
    GenMap.vsorted_unique_idx.run (castL xs) false = Spec.runEnds xs := by
  rw [vsorted_unique_idx_last_eq, C14.unique_last]
theorem vsorted_unique_idx_first_spec (xs : List (Option Int)) (h : NoNullGap xs) :
    GenMap.vsorted_unique_idx.run (castL xs) true = Spec.runStarts xs := by
  rw [vsorted_unique_idx_first_eq, C14.unique_first xs h]
theorem vsorted_unique_spec (xs : List (Option Int)) (h : NoNullGap xs) :
    GenMap.vsorted_unique.run (castL xs) = castL (Spec.runValues xs) := by
  rw [vsorted_unique_eq, C14.unique_vals xs h]

/-- an item of the model as the regenerated code yields it: `Ok(label)`, `Ok(null)`, `Err` -/
def itemOut : Item (Option Rat) → Option (Option Rat)
  | .label l => some l
  | .null => some none
  | .outside => none

def castI (l : List Int) : List Rat := l.map fun (a : Int) => (a : Rat)
def castP (b : Int × Int) : Rat × Rat := ((b.1 : Rat), (b.2 : Rat))

theorem windows_cast (E : List Int) : Gen.windows (castI E) = (C14.windows E).map castP := by
  induction E with
  | nil => rfl
  | cons a t ih =>
    cases t with
    | nil => rfl
    | cons b t => exact congrArg ((castP (a, b)) :: ·) ih

/-- the `for … { if test { out = Some(label); break; } }` loop of the regenerated closure, for any
generated loop body `F` that satisfies the equation of the source, is the model's `firstMatch` -/
theorem foldBreak_firstMatch (test : Nat → Int × Int → Bool)
    (F : Option (Option Rat) × Bool → Nat × ((Rat × Rat) × Option Rat) → Option (Option Rat) × Bool)
    (hF : ∀ out brk i b l, F (out, brk) (i, (castP b, l)) =
      if brk then (out, brk) else if test i b then (some l, true) else (out, brk)) :
    ∀ (L : List ((Int × Int) × Option Rat)) (k : Nat),
      (List.foldl F (none, false) ((List.range' k L.length).zip (L.map fun p => (castP p.1, p.2)))).1
        = firstMatch test k L := by
  -- from any state: a broken loop stays as it is, a running one breaks at the first match
  have G : ∀ (L : List ((Int × Int) × Option Rat)) (k : Nat) (o : Option (Option Rat)) (brk : Bool),
      List.foldl F (o, brk) ((List.range' k L.length).zip (L.map fun p => (castP p.1, p.2))) =
        if brk then (o, true) else
          match firstMatch test k L with
          | some l => (some l, true)
          | none => (o, false) := by
    intro L
    induction L with
    | nil => intro k o brk; cases brk <;> rfl
    | cons p L ih =>
      intro k o brk
      rw [List.length_cons, List.range'_succ, List.map_cons, List.zip_cons_cons, List.foldl_cons, hF, firstMatch]
      cases brk with
      | true => exact ih (k + 1) o true
      | false =>
        cases test k p.1 with
        | true => exact ih (k + 1) (some p.2) true
        | false => exact ih (k + 1) o false
  intro L k
  rw [G]
  cases firstMatch test k L <;> rfl

theorem castI_length (E : List Int) : (castI E).length = E.length := List.length_map _

/-- the edge vector the regenerated code materialises is the model's, cast -/
theorem edges_eq (MIN MAX : Int) (bins : List Int) (n : Nat) (ab : Bool) :
    (if ab then
      if decide (n ≠ (castI bins).length + 1) then none
      else some (([(MIN : Rat)] ++ castI bins) ++ [(MAX : Rat)])
    else
      if decide (n + 1 ≠ (castI bins).length) then none else some (castI bins))
    = (edgesOf MIN MAX bins n ab).map castI := by
  have e : ([(MIN : Rat)] ++ castI bins) ++ [(MAX : Rat)] = castI (MIN :: (bins ++ [MAX])) := by
    simp [castI]
  unfold edgesOf
  simp only [castI_length, decide_eq_true_eq, e]
  cases ab
  · simp only [Bool.false_eq_true, if_false]; split <;> rfl
  · simp only [if_true]; split <;> rfl

/-- the generated loop over `enumerate(zip(windows(edges), labels))` -/
theorem cut_loop (test : Nat → Int × Int → Bool) (E : List Int) (labels : List (Option Rat))
    (F : Option (Option Rat) × Bool → Nat × ((Rat × Rat) × Option Rat) → Option (Option Rat) × Bool)
    (hF : ∀ out brk i b l, F (out, brk) (i, (castP b, l)) =
      if brk then (out, brk) else if test i b then (some l, true) else (out, brk)) :
    (List.foldl F (none, false) (Gen.enumerate ((Gen.windows (castI E)).zip labels))).1
      = firstMatch test 0 ((C14.windows E).zip labels) := by
  rw [enumerate_eq, windows_cast]
  have e : ((C14.windows E).map castP).zip labels = ((C14.windows E).zip labels).map fun p => (castP p.1, p.2) := by
    rw [List.zip_map_left]; rfl
  rw [e, List.length_map]
  exact foldBreak_firstMatch test F hF _ 0

/-- the closure mapped over the values: null to the null label, a value through the loop -/
theorem cut_map (test : Int → Nat → Int × Int → Bool) (E : List Int) (labels : List (Option Rat))
    (xs : List (Option Int)) (G : Option Rat → Option (Option Rat)) (hnull : G none = some none)
    (hval : ∀ x : Int, G (some (x : Rat)) = firstMatch (test x) 0 ((C14.windows E).zip labels)) :
    List.map G (castL xs) = List.map itemOut (List.map (cutItem test E labels) xs) := by
  unfold castL
  rw [List.map_map, List.map_map]
  refine List.map_congr_left fun v _ => ?_
  cases v with
  | none => exact hnull
  | some x =>
    simp only [Function.comp_apply, castE, Option.map_some, hval, cutItem]
    cases firstMatch (test x) 0 ((C14.windows E).zip labels) <;> rfl

/-- The two `if right` arms of the source differ only in which comparison is strict; in each the
loop body is `binTest` once the casts are pushed through the comparisons (`i == 0` in the model is
`decide (i = 0)` by definition, and the final re-pairing of `(out, brk__)` is eta). -/
theorem vcut_eq (MIN MAX : Int) (xs : List (Option Int)) (bins : List Int) (labels : List (Option Rat))
    (right ab : Bool) :
    GenMap.vcut.run (castL xs) MIN MAX (castI bins) labels right ab =
      (C14.vcut MIN MAX xs bins labels right ab).map fun l => l.map itemOut := by
  unfold GenMap.vcut.run C14.vcut
  rw [edges_eq]
  cases edgesOf MIN MAX bins labels.length ab with
  | none => rfl
  | some E =>
    simp only [Option.map_some, castI_length]
    cases right
    · simp only [Bool.false_eq_true, if_false]
      refine congrArg some (cut_map _ E labels xs _ rfl fun x =>
        cut_loop _ E labels _ fun out brk i b l => ?_)
      simp only [castP, binTest, Rat.intCast_lt_intCast, Rat.intCast_le_intCast, Bool.false_eq_true, if_false]
      rfl
    · simp only [if_true]
      refine congrArg some (cut_map _ E labels xs _ rfl fun x =>
        cut_loop _ E labels _ fun out brk i b l => ?_)
      simp only [castP, binTest, Rat.intCast_lt_intCast, Rat.intCast_le_intCast, if_true]
      rfl

/-- a specification outcome as the regenerated code yields it (`Ok(label)`, `Ok(null)`, `Err`) -/
def outOf : Spec.Outcome (Option Rat) → Option (Option Rat)
  | .label l => some l
  | .null => some none
  | .outside => none
  | .ambiguous => none

/-- the regenerated `vcut` on ascending edges is the from-scratch specification (the label of the
unique enclosing interval, `Err` outside, the null label on a null), every input, both closure
sides, both bound modes -/
theorem vcut_spec (MIN MAX : Int) (xs : List (Option Int)) (bins : List Int) (hasc : Ascending bins)
    (labels : List (Option Rat)) (right ab : Bool) :
    GenMap.vcut.run (castL xs) MIN MAX (castI bins) labels right ab
      = (Spec.cut xs bins labels right ab).map (·.map outOf) := by
  rw [vcut_eq, ← C14.cut_eq_spec MIN MAX xs bins hasc labels right ab]
  cases C14.vcut MIN MAX xs bins labels right ab with
  | none => rfl
  | some l =>
    simp only [Option.map_some, List.map_map]
    congr 1
    apply List.map_congr_left
    intro it _
    cases it <;> rfl

theorem vcut_present : "vcut" ∈ GenMap.functions ∧ GenMap.vcut.parsed = true :=
  ⟨List.mem_of_mem_drop (i := 16) List.mem_cons_self, rfl⟩
end Tv.C14Gen
