import Tv.GenFd
import Tv.Lemmas.GenSim
import Tv.Thm.C01
import Tv.Thm.C02Gen
set_option linter.unusedSimpArgs false
set_option linter.unusedVariables false
/-!
# C01 — the fractional-difference code regenerated from tevec/src/rolling.rs is the model's

`Tv.GenFd.fdiff_coef.run`, `ts_fdiff.emit`, `ts_vfdiff.emit` are written by translator/fdiff.py on
every run (`binom d v` = `ffi::binom(d, v as f64)`, instantiated with the exact generalized binomial
`gbinom`).  Proved: the coefficient vector is the model's, each closure agrees with the model closure
on every window slice, and — through `tsFdiff_exact` / `tsVfdiff_exact` — the regenerated closure over
the slices either driver shape hands out is the from-scratch fractional difference of the window.
(The namespace is `Tv.C01Fd`, after the subject, not after the file.)
-/
namespace Tv.C01Fd
open Tv Tv.GenSim

/-- a `map` closure that flips a captured sign, against the model's fold -/
theorem mapSt_sign (d : Rat) (F : Rat → Nat → Rat × Rat) (hF : ∀ s v, F s v = (-s, gbinom d v * -s))
    (l : List Nat) (s : Rat) (acc : List Rat) :
    (l.foldl (fun (a : Rat × List Rat) v => let s := -a.1; (s, a.2 ++ [gbinom d v * s])) (s, acc)).2
      = acc ++ Gen.mapSt F s l := by
  induction l generalizing s acc with
  | nil => simp [Gen.mapSt]
  | cons v l ih =>
    rw [List.foldl_cons, ih]
    simp [Gen.mapSt, hF]

theorem fdiff_coef_eq (d : Rat) (w : Nat) : GenFd.fdiff_coef.run gbinom d w = fdiffCoef d w := by
  unfold GenFd.fdiff_coef.run fdiffCoef
  simp only [decide_eq_true_eq, Nat.sub_zero, ← List.range_eq_range']
  have := mapSt_sign d _ (fun s v => rfl) (List.range w).reverse (if w % 2 = 0 then 1 else -1) []
  rw [this]
  simp

/-- a fold over pairs that adds one term `g (v, c)` per pair sums the list of terms (the hypothesis is
about a pair in constructor form, so that a closure `fun acc (v, c) => …` meets it by unfolding) -/
theorem foldl_add_map {β γ : Type} (F : Rat → β × γ → Rat) (g : β × γ → Rat)
    (hF : ∀ a v c, F a (v, c) = a + g (v, c)) (l : List (β × γ)) (a : Rat) :
    List.foldl F a l = (l.map g).foldl (· + ·) a := by
  induction l generalizing a with
  | nil => rfl
  | cons p l ih => obtain ⟨v, c⟩ := p; rw [List.foldl_cons, hF, ih, List.map_cons, List.foldl_cons]

theorem ts_fdiff_emit (sqrt : Rat → Rat) (d : Rat) (w : Nat) (arr : List Rat) :
    Agree sqrt (GenFd.ts_fdiff.emit gbinom d w arr) (fdiffEmit d w arr) := by
  unfold GenFd.ts_fdiff.emit fdiffEmit dot
  simp only [fdiff_coef_eq]
  rw [foldl_add_map _ (fun p => p.1 * p.2) (fun a v c => rfl)]
  rfl

theorem valid_filter (arr : List (Option Rat)) : (valid arr).length = (arr.filter Option.isSome).length := by
  induction arr with
  | nil => rfl
  | cons x xs ih => cases x <;> simp [valid, List.filterMap_cons, List.filter_cons] at * <;> omega

theorem zip_filter_valid (arr : List (Option Rat)) (cs : List Rat) :
    (((arr.filter Option.isSome).zip cs).map optMul) = ((valid arr).zip cs).map fun p => p.1 * p.2 := by
  induction arr generalizing cs with
  | nil => rfl
  | cons x xs ih =>
    cases x with
    | none => simpa [valid, List.filter_cons] using ih cs
    | some v =>
      cases cs with
      | nil => simp [valid, List.filter_cons]
      | cons c cs =>
        have := ih cs
        simp only [valid] at this
        simp [valid, List.filter_cons, optMul, this]

theorem ts_vfdiff_emit (sqrt : Rat → Rat) (d : Rat) (w mp : Nat) (arr : List (Option Rat)) :
    Agree sqrt (GenFd.ts_vfdiff.emit gbinom d w mp arr) (vfdiffEmit d w mp arr) := by
  unfold GenFd.ts_vfdiff.emit vfdiffEmit dot
  simp only [fdiff_coef_eq, valid_filter, decide_eq_true_eq]
  have hO : ∀ (a : Rat) (v : Option Rat) (c : Rat),
      (match v with | some v => a + v * c | _ => a) = a + optMul (v, c) := by
    intro a v c; cases v <;> simp [optMul]
  by_cases h1 : (arr.filter Option.isSome).length = w
  · simp only [h1, if_true]
    rw [foldl_add_map _ optMul (fun a v c => hO a v c)]
    rfl
  · simp only [h1, if_false]
    by_cases h2 : (arr.filter Option.isSome).length ≥ mp
    · simp only [h2, if_true]
      rw [foldl_add_map _ optMul (fun a v c => hO a v c), zip_filter_valid]
      rfl
    · simp only [h2, if_false]; rfl

theorem ts_vfdiff_minPeriods (w : Nat) (mp : Option Nat) : GenFd.ts_vfdiff.minPeriods w mp = effMp mp w 0 := by
  simp [GenFd.ts_vfdiff.minPeriods, effMp]

/-- the regenerated `ts_vfdiff` closure over the slices of either driver shape = the from-scratch
fractional difference of the valid values of the window, every position -/
theorem ts_vfdiff_exact (sqrt : Rat → Rat) (sh : Shape) (d : Rat) (xs : List (Option Rat)) (w : Nat) (mp : Option Nat)
    (hw : 1 ≤ w) :
    List.Forall₂ (Agree sqrt)
      ((customCalls sh xs w).map (GenFd.ts_vfdiff.emit gbinom d w (GenFd.ts_vfdiff.minPeriods w mp)))
      ((List.range xs.length).map fun i => Spec.tsVfdiff d (effMp mp w 0) (vwin xs i w)) := by
  rw [← C01.tsVfdiff_exact sh d xs w mp hw, ts_vfdiff_minPeriods]
  exact forall₂_map (ts_vfdiff_emit sqrt d w _) _

theorem ts_fdiff_exact (sqrt : Rat → Rat) (sh : Shape) (d : Rat) (xs : List Rat) (w : Nat) (hw : 1 ≤ w) :
    List.Forall₂ (Agree sqrt)
      ((customCalls sh xs w).map (GenFd.ts_fdiff.emit gbinom d w))
      ((List.range xs.length).map fun i => Spec.tsFdiff d (window xs i w)) := by
  rw [← C01.tsFdiff_exact sh d xs w hw]
  exact forall₂_map (ts_fdiff_emit sqrt d w) _

/-- **from source, end to end**: regenerated slice driver (both shapes) + regenerated closure -/
theorem ts_vfdiff_from_source (sqrt : Rat → Rat) (d : Rat) (xs : List (Option Rat)) (w : Nat) (mp : Option Nat) (hw : 1 ≤ w) :
    C02Gen.E2ECustom (fun cs => List.Forall₂ (Agree sqrt)
      (cs.map (GenFd.ts_vfdiff.emit gbinom d w (GenFd.ts_vfdiff.minPeriods w mp)))
      ((List.range xs.length).map fun i => Spec.tsVfdiff d (effMp mp w 0) (vwin xs i w))) xs w :=
  C02Gen.e2e_custom _ xs w hw (ts_vfdiff_exact sqrt .to d xs w mp hw) (ts_vfdiff_exact sqrt .iter d xs w mp hw)

theorem ts_fdiff_from_source (sqrt : Rat → Rat) (d : Rat) (xs : List Rat) (w : Nat) (hw : 1 ≤ w) :
    C02Gen.E2ECustom (fun cs => List.Forall₂ (Agree sqrt)
      (cs.map (GenFd.ts_fdiff.emit gbinom d w))
      ((List.range xs.length).map fun i => Spec.tsFdiff d (window xs i w))) xs w :=
  C02Gen.e2e_custom _ xs w hw (ts_fdiff_exact sqrt .to d xs w hw) (ts_fdiff_exact sqrt .iter d xs w hw)

theorem functions_present :
    GenFd.functions = ["fdiff_coef", "ts_fdiff", "ts_vfdiff"] ∧ GenFd.fdiff_coef.parsed = true ∧
    GenFd.ts_fdiff.parsed = true ∧ GenFd.ts_vfdiff.parsed = true ∧
    GenFd.ts_fdiff.driver = "rolling_custom" ∧ GenFd.ts_vfdiff.driver = "rolling_custom" :=
  ⟨rfl, rfl, rfl, rfl, rfl, rfl⟩
end Tv.C01Fd
