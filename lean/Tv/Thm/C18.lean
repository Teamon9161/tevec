import Tv.Generated
import Tv.Lemmas.C18Sum
import Tv.Lemmas.C18Dt
/-! C18 — parsers are total and round-trip with their formatters: totality of `TimeDelta::parse` with the
  pinned tree's panics as witnesses, well-formed duration strings parse to the sum of their terms, the
  model meets the driver's specification, `DateTime::parse` / `Time::parse` modulo chrono, and the two
  tables regenerated from the sources. -/
namespace Tv.C18
open Spec

/-- **Totality.** For every string whatsoever (any code points, any length) the repaired
    `TimeDelta::parse` returns a value or an error; it never reaches a panicking operation
    (the slice `duration[start..i]` is always on char boundaries with `start ≤ i`, the integer
    parse is not unwrapped, all arithmetic is checked). -/
theorem parse_total (s : List Char) : (tdParse .repaired s).isPanic = false :=
  scan_repaired_total s {} 0 s ⟨[], [], by simp, rfl, rfl⟩

/-- Totality in the form "a value or an error". -/
theorem parse_value_or_error (s : List Char) :
    (∃ m n, tdParse .repaired s = .ok m n) ∨ (∃ k, tdParse .repaired s = .err k) := by
  have h := parse_total s
  cases hr : tdParse .repaired s with
  | ok m n => exact Or.inl ⟨m, n, rfl⟩
  | err k => exact Or.inr ⟨k, rfl⟩
  | panic k =>
    rw [hr] at h
    cases h

/-- The scanner's cursor invariant, as the property's `state` names it: when `start` and `i` are
    char boundaries of the text with `start ≤ i` (`SliceInv`), the slice `duration[start..i]`
    succeeds. The lemmas by which the cursor keeps `SliceInv` do not depend on the version of the
    arithmetic; that a whole scan never panics is `parse_total`, for the repaired scanner. -/
theorem slice_never_panics (s : List Char) (start off : Nat) (rest : List Char)
    (h : SliceInv s start off rest) : ∃ m, slice s start off = some m := h.slice

/-! ### the pinned tree violates totality (F6) -/

/-- `"a1d"`: the integer parse of `"a1"` is unwrapped. -/
theorem parse_pinned_wrong_a1d : tdParse .pinned ['a', '1', 'd'] = .panic .unwrapParse := by decide +kernel
/-- `"--1d"`. -/
theorem parse_pinned_wrong_signs : tdParse .pinned ['-', '-', '1', 'd'] = .panic .unwrapParse := by decide +kernel
/-- `"é1d"` (a multi-byte first character). -/
theorem parse_pinned_wrong_multibyte : tdParse .pinned ['é', '1', 'd'] = .panic .unwrapParse := by decide +kernel
/-- `"1d 2h"`: a space between terms. -/
theorem parse_pinned_wrong_space : tdParse .pinned ['1', 'd', ' ', '2', 'h'] = .panic .unwrapParse := by decide +kernel
/-- a 20-digit number does not fit `i64`. -/
theorem parse_pinned_wrong_20digits :
    tdParse .pinned (List.replicate 20 '9' ++ ['d']) = .panic .unwrapParse := by decide +kernel
/-- `"9223372036854775807w"`: `n * SECS_PER_WEEK` overflows (overflow checks on). -/
theorem parse_pinned_wrong_mul :
    tdParse .pinned ['9','2','2','3','3','7','2','0','3','6','8','5','4','7','7','5','8','0','7','w']
      = .panic .mulOverflow := by decide +kernel
/-- `"9999999999999999s"`: `Duration::seconds` out of bounds. -/
theorem parse_pinned_wrong_duration :
    tdParse .pinned (List.replicate 16 '9' ++ ['s']) = .panic .durationBounds := by decide +kernel
/-- `"200000000y"`: `n as i32 * 12` overflows. -/
theorem parse_pinned_wrong_years :
    tdParse .pinned ['2','0','0','0','0','0','0','0','0','y'] = .panic .mulOverflow := by decide +kernel
/-- `"4294967297mo"` is silently truncated to one month by `as i32` (a wrong value, not the sum). -/
theorem parse_pinned_wrong_truncates :
    tdParse .pinned ['4','2','9','4','9','6','7','2','9','7','m','o'] = .ok 1 0 := by decide +kernel

/-- the same inputs on the repaired scanner: errors -/
example : tdParse .repaired ['a', '1', 'd'] = .err .num := by decide +kernel
example : tdParse .repaired ['é', '1', 'd'] = .err .num := by decide +kernel
example : tdParse .repaired (List.replicate 16 '9' ++ ['s']) = .err .overflow := by decide +kernel
example : tdParse .repaired ['4','2','9','4','9','6','7','2','9','7','m','o'] = .err .overflow := by decide +kernel

/-- **Well-formed strings.** Every sequence of terms (optional sign `+`/`-`, one or more
    digits with leading zeros allowed, one of the ten units), of any length, whose running
    totals stay representable (`NoOverflow`: the exact condition under which the implementation's
    `i64`/`i32` accumulators and chrono's `Duration` can hold them) parses to the sum of its
    terms: months and years into the month count, the rest into the fixed part (nanoseconds). -/
theorem parse_wellformed (ts : List Term) (h : NoOverflow ts) :
    tdParse .repaired (render ts) = .ok (sumMonths ts) (sumNanos ts) := by
  rw [tdParse_render, ← stOf_init, runTerms_ok ts {} 0 h]
  simp

/-- Conversely, a well-formed string whose totals are not representable is rejected with an
    error (never a wrapped value, never a panic). -/
theorem parse_wellformed_overflow (ts : List Term) (h : ¬ NoOverflow ts) :
    tdParse .repaired (render ts) = .err .num ∨ tdParse .repaired (render ts) = .err .overflow := by
  rw [tdParse_render, ← stOf_init]
  exact runTerms_err ts {} 0 (by simpa [NoOverflow] using h)

/-- A well-formed string yields a value exactly when its totals are representable. -/
theorem parse_wellformed_iff (ts : List Term) :
    (∃ m n, tdParse .repaired (render ts) = .ok m n) ↔ NoOverflow ts := by
  constructor
  · rintro ⟨m, n, h⟩
    by_cases hno : NoOverflow ts
    · exact hno
    · rcases parse_wellformed_overflow ts hno with h' | h' <;> rw [h'] at h <;> cases h
  · intro h
    exact ⟨_, _, parse_wellformed ts h⟩

/-- A hypothesis-light corollary: whatever the signs and the order of the terms, if their
    absolute sizes add up to at most `i64::MAX` nanoseconds (about 292 years) in the fixed part
    and `i32::MAX` months in the calendar part, the string parses to the sum of its terms. -/
theorem parse_wellformed_small (ts : List Term) (h1 : absNanos ts ≤ 9223372036854775807)
    (h2 : absMonths ts ≤ 2147483647) :
    tdParse .repaired (render ts) = .ok (sumMonths ts) (sumNanos ts) :=
  parse_wellformed ts (noOverflow_of_small ts h1 h2)

/-- a string of fixed-length terms (units without a calendar part) has month count zero -/
theorem sum_parts (ts : List Term) :
    (∀ t ∈ ts, t.unit.months = 0) → sumMonths ts = 0 := by
  intro h
  induction ts with
  | nil => rfl
  | cons t ts ih =>
    simp only [sumMonths, List.map_cons, List.sum_cons] at ih ⊢
    rw [h t (by simp), ih (fun t' ht' => h t' (by simp [ht']))]
    simp

/-! ### the specification used by the correspondence run

  The driver's spec side (`Spec.expected`) decides with a from-scratch recogniser whether a text is
  a well-formed representable duration string. The two theorems below tie it to `render`: every
  rendered term list is recognised as itself (that nothing else is accepted is `recognise_sound`),
  and wherever it yields a value the model of the repaired code yields the same value. -/

theorem expected_render (ts : List Term) :
    expected (render ts) = if NoOverflow ts then some (sumMonths ts, sumNanos ts) else none := by
  unfold expected NoOverflow
  rw [recognise_render ts _ (render_length ts)]

/-- **Model meets spec.** For every text: if the specification demands the value `(m, n)`
    (the text is well-formed and representable, and `(m, n)` is the sum of its terms) then the
    repaired parser returns exactly `(m, n)`. -/
theorem parse_meets_spec (s : List Char) (m n : Int) (h : expected s = some (m, n)) :
    tdParse .repaired s = .ok m n := by
  unfold expected at h
  split at h
  · rename_i ts hts
    split at h
    · rename_i hno
      cases h
      rw [recognise_sound _ _ _ hts]
      exact parse_wellformed ts hno
    · cases h
  · cases h

/-- "2y1mo-3d5h-2m3s" (the doc comment's example) as a term list -/
def docExample : List Term := [
  ⟨.none, 2, [], .y⟩, ⟨.none, 1, [], .mo⟩, ⟨.minus, 3, [], .d⟩, ⟨.none, 5, [], .h⟩,
  ⟨.minus, 2, [], .m⟩, ⟨.none, 3, [], .s⟩]

example : render docExample = "2y1mo-3d5h-2m3s".toList := by decide +kernel
example : NoOverflow docExample := by decide
example : tdParse .repaired (render docExample) = .ok 25 (-241317000000000) :=
  parse_wellformed docExample (by decide)
example : tdParse .repaired "2y1mo-3d5h-2m3s".toList = .ok 25 (-241317000000000) := by decide +kernel
/-- the doctest of `TimeDelta::parse`: 14 months and 3d 4h 5m 6s -/
example : tdParse .repaired "1y2mo3d4h5m6s".toList = .ok 14 ((3 * 86400 + 4 * 3600 + 5 * 60 + 6) * 1000000000) := by
  decide +kernel
/-- signs, leading zeros and an explicit plus are part of the grammar -/
example : NoOverflow [⟨.plus, 0, [0, 7], .ms⟩, ⟨.minus, 1, [2], .us⟩] := by decide
example : absNanos docExample ≤ 9223372036854775807 ∧ absMonths docExample ≤ 2147483647 := by decide
/-- the hypothesis is not always true: `i64::MAX` weeks do not fit -/
example : ¬ NoOverflow [⟨.none, 9, [2,2,3,3,7,2,0,3,6,8,5,4,7,7,5,8,0,7], .w⟩] := by decide

/-- **Totality modulo chrono.** Whatever chrono's two parsers answer for the text (they are a
    parameter of the model: total functions, i.e. assumed not to panic), for each of the four
    units, with or without an explicit format, the repaired `DateTime::parse` returns a value
    or an error. -/
theorem dtParse_total (u : DUnit) (c : Chrono) (fmt : Option String) :
    (dtParse .repaired u c fmt).isPanic = false := by
  rw [dtParse_isPanic]
  split
  · exact (fromCr_isPanic ..).trans rfl
  · rfl

/-- chrono's answers for the text `"3000-01-01"`: only the date parser with `"%Y-%m-%d"` succeeds
    (376200 days after the epoch) -/
def chrono3000 : Chrono :=
  { dateTime := fun _ => none
    date := fun f => if f = "%Y-%m-%d" then some 376200 else none }

/-- **F7.** On the pinned tree `"3000-01-01".parse::<DateTime<Nanosecond>>()` panics: the
    instant does not fit an `i64` of nanoseconds and `From<chrono::DateTime<Utc>>` `expect`s. -/
theorem dtParse_pinned_wrong : dtParse .pinned .ns chrono3000 none = .panic .expectNanos := by
  decide +kernel

/-- the repaired code reports it as an error; coarser units hold the instant -/
example : dtParse .repaired .ns chrono3000 none = .err .range := by decide +kernel
example : dtParse .repaired .us chrono3000 none = .ok 32503680000000000 := by decide +kernel

/-- on the pinned tree the panic is confined to the nanosecond unit -/
theorem dtParse_pinned_total_coarse (u : DUnit) (hu : u ≠ .ns) (c : Chrono) (fmt : Option String) :
    (dtParse .pinned u c fmt).isPanic = false := by
  rw [dtParse_isPanic]
  split
  · simp [fromCr_isPanic, hu]
  · rfl

/-- and, for the nanosecond unit, to instants outside the `i64` nanosecond range
    (1677-09-21 .. 2262-04-11): inside it the pinned code does not panic either -/
theorem dtParse_pinned_total_in_range (c : Chrono) (fmt : Option String)
    (h : ∀ x, chosen c fmt = some x → inI64 (x.secs * 1000000000 + x.nanos) = true) :
    (dtParse .pinned .ns c fmt).isPanic = false := by
  rw [dtParse_isPanic]
  split
  · rename_i x hx
    simp [fromCr_isPanic, h x hx]
  · rfl

/-- **Format list.** Without an explicit format the result comes from the first format of
    `TIME_RULE_VEC`, in order, that chrono accepts (as a date-time, else as a date at midnight);
    if chrono accepts none the result is a parse error. -/
theorem dtParse_first_format (v : Version) (u : DUnit) (c : Chrono) (x : Instant) :
    (∃ pre f post, timeRuleVec = pre ++ f :: post ∧ (∀ g ∈ pre, tryFmt c g = none) ∧ tryFmt c f = some x) →
      dtParse v u c none = fromCr v u x := by
  intro h
  exact dtParse_of_chosen ((firstFmt_some_iff c timeRuleVec x).2 h)

theorem dtParse_no_format (v : Version) (u : DUnit) (c : Chrono)
    (h : ∀ f ∈ timeRuleVec, tryFmt c f = none) : dtParse v u c none = .err .parse :=
  dtParse_of_chosen_none ((firstFmt_none_iff c timeRuleVec).2 h)

/-- **Round trip modulo chrono.** If, for the text produced by formatting the instant `ticks`
    (in unit `u`), the first format chrono accepts gives back chrono's own representation of that
    instant — i.e. chrono's parser inverts chrono's formatter at the unit's resolution, which is
    what the correspondence run observes on the real code — then `DateTime::parse` returns exactly
    `ticks`: the conversions `DateTime<U> → chrono → DateTime<U>` lose nothing, for every `i64`
    and each of the four units. -/
theorem dt_roundtrip_mod_chrono (v : Version) (u : DUnit) (c : Chrono) (ticks : Int)
    (hr : inI64 ticks = true) (hc : firstFmt c timeRuleVec = some (toCr u ticks)) :
    dtParse v u c none = .ok ticks :=
  (dtParse_of_chosen (fmt := none) hc).trans (fromCr_toCr v u ticks hr)

/-- the same with an explicit format -/
theorem dt_roundtrip_mod_chrono_fmt (v : Version) (u : DUnit) (c : Chrono) (ticks : Int) (f : String)
    (hr : inI64 ticks = true) (hc : tryFmt c f = some (toCr u ticks)) :
    dtParse v u c (some f) = .ok ticks :=
  (dtParse_of_chosen (fmt := some f) hc).trans (fromCr_toCr v u ticks hr)

/-- chrono's answers for the text `"2020-01-01 00:00:00.500000000"` (what `strftime(None)` prints for
    1577836800500 ms): only the second listed format parses it -/
def chrono2020 : Chrono :=
  { dateTime := fun f => if f = "%Y-%m-%d %H:%M:%S.%f" then some ⟨1577836800, 500000000⟩ else none
    date := fun _ => none }

/-- non-vacuity of the round-trip hypotheses -/
example : dtParse .repaired .ms chrono2020 none = .ok 1577836800500 :=
  dt_roundtrip_mod_chrono _ _ _ _ (by decide) (by decide +kernel)

/-- non-vacuity: 2020-01-01 00:00:00.5 in milliseconds -/
example : fromCr .repaired .ms (toCr .ms 1577836800500) = .ok 1577836800500 := by decide +kernel
example : toCr .ms (-1) = ⟨-1, 999000000⟩ := by decide +kernel

/-- `Time::parse` never panics, whatever chrono returns. -/
theorem timeParse_total (c : Option (Nat × Nat)) : (timeParse c).isPanic = false := by
  unfold timeParse
  split <;> rfl

/-- and a parsed time of day is its nanosecond count after midnight -/
theorem timeParse_value (h m s frac : Nat) :
    timeParse (some ((h * 60 + m) * 60 + s, frac)) = .ok (timeOfDay h m s frac) := by
  simp [timeParse, timeOfDay]

def fieldName : Field → String
  | .nsecs => "nsecs"
  | .secs => "secs"
  | .months => "months"

/-- the format list of the model is the `TIME_RULE_VEC` of the source -/
theorem timeRuleVec_matches : Generated.timeRuleVec = timeRuleVec := by decide +kernel

/-- the unit table of the model is the `match unit.as_str()` of the source (constants of
    convert.rs resolved) -/
theorem durationUnits_matches :
    Generated.durationUnits = unitTable.map fun (u, f, k) => (String.ofList u, fieldName f, k) := by
  decide +kernel

end Tv.C18
