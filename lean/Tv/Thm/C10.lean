import Tv.Thm.C02
import Tv.Model.Kernel
/-!
# C10 — kernels never index out of bounds and initialise every output slot exactly once

The theorems are about the index arithmetic of the drivers and window kernels; that the
compiled code performs exactly these accesses is observed on every run by the instrumented
containers of the harness (`LogVec`, `LogOut`) and the debug-profile precondition checks.
-/
namespace Tv.C10
open Tv

/-- every unchecked element read of the driver loops is in bounds (`C02.reads_in_bounds`, stated
again under this property) -/
theorem reads_in_bounds (sh : Shape) (len w : Nat) (hw : 1 ≤ w) : ∀ i ∈ reads sh len w, i < len :=
  C02.reads_in_bounds sh len w hw

/-- every output slot is written exactly once (and nothing else is written) -/
theorem writes_once (sh : Shape) (len w : Nat) (hw : 1 ≤ w) :
    (∀ i, i < len → (writes sh len w).count i = 1) ∧ (∀ i ∈ writes sh len w, i < len) := by
  rw [C02.writes_eq_range sh len w hw]
  constructor
  · intro i hi
    exact (List.nodup_range).count (a := i) |>.trans (by simp [hi])
  · intro i hi; exact List.mem_range.mp hi

/-- every index in `start.getD 0 ..= end` of every callback is in bounds, and `start ≤ end`:
covers the rescans of cmp.rs / norm.rs, the residual loops of reg.rs and the expiry reads -/
theorem kernel_range_in_bounds (sh : Shape) (len w : Nat) (hw : 1 ≤ w) :
    ∀ p ∈ sh.idx len w, p.1.getD 0 ≤ p.2 ∧ ∀ j ∈ kernelRange p.1 p.2, j < len := by
  intro p hp
  rw [C02.idx_spec sh len w hw] at hp
  simp only [List.mem_map, List.mem_range] at hp
  obtain ⟨i, hi, rfl⟩ := hp
  have hs : (startAt (C02.effW sh w len) i).getD 0 ≤ i := by
    cases h : startAt (C02.effW sh w len) i with
    | none => exact Nat.zero_le i
    | some s => exact startAt_le h
  refine ⟨hs, ?_⟩
  intro j hj
  unfold kernelRange at hj
  rw [List.mem_range'_1] at hj
  omega

/-- the window slices handed to the slice drivers satisfy `0 ≤ start ≤ end ≤ len` -/
theorem slices_ok (sh : Shape) (len w : Nat) (hw : 1 ≤ w) :
    ∀ p ∈ sh.idx len w, p.1.getD 0 ≤ p.2 + 1 ∧ p.2 + 1 ≤ len := by
  intro p hp
  have h := kernel_range_in_bounds sh len w hw p hp
  rw [C02.idx_spec sh len w hw] at hp
  simp only [List.mem_map, List.mem_range] at hp
  obtain ⟨i, hi, rfl⟩ := hp
  exact ⟨by have := h.1; omega, by simp only; omega⟩

theorem toIdx_zero_len (w : Nat) : toIdx 0 w = [] := by simp [toIdx]

/-- **degenerate parameters are clean**: for any window (including 0), any length (including 0)
and any length of the second series, the driver either panics or returns with every slot of
its output written exactly once, in order. This is about `driverOutcome`, a transcription of the
guards; for the `*_to` drivers as regenerated from view.rs see `C02Gen.rolling_apply_to_panics` and
the hypotheses `1 ≤ w`, `len ≤ len2` of `C10Gen.*_safe`. -/
theorem degenerate_clean (sh : Shape) (len len2 w : Nat) (two : Bool) :
    driverOutcome sh len len2 w two = .panic ∨
    ∃ n, driverOutcome sh len len2 w two = .ok (List.range n) ∧ n ≤ len := by
  cases sh
  · simp only [driverOutcome]
    by_cases h0 : w = 0 ∧ len ≠ 0
    · left; simp [h0]
    · by_cases h2 : two = true ∧ len2 < len
      · left; simp [h0, h2]
      · right
        refine ⟨len, ?_, Nat.le_refl _⟩
        simp only [h0, h2, if_false]
        by_cases hw : 1 ≤ w
        · rw [C02.writes_eq_range .to len w hw]
        · have hw0 : w = 0 := by omega
          have hl : len = 0 := Classical.byContradiction (fun hc => h0 ⟨hw0, hc⟩)
          subst hl
          simp [writes, Shape.idx, toIdx_zero_len]
  · simp only [driverOutcome]
    by_cases h0 : w = 0
    · left; simp [h0]
    · right
      refine ⟨if two = true then min len len2 else len, by simp [h0], ?_⟩
      split <;> omega

/-- in the `*_to` form a second series that is long enough is only read inside its bounds -/
theorem second_series_reads (len len2 w : Nat) (hw : 1 ≤ w) (h : len ≤ len2) :
    ∀ i ∈ reads .to len w, i < len2 := by
  intro i hi
  have := reads_in_bounds .to len w hw i hi
  omega

example : driverOutcome .to 3 3 0 false = .panic := by decide
example : driverOutcome .to 0 0 0 false = .ok [] := by decide
example : driverOutcome .to 3 2 2 true = .panic := by decide
example : driverOutcome .to 3 3 2 true = .ok [0, 1, 2] := by decide
example : kernelRange (some 2) 4 = [2, 3, 4] := by decide

end Tv.C10
