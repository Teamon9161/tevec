import Tv.Lemmas.C03CmpMain
import Tv.Lemmas.C03Rank
import Tv.Lemmas.C03Norm
import Tv.Lemmas.C03Zscore
import Tv.Generated
/-!
# C03 — rolling extrema, arg-extrema, rank and normalisation are exact per window

Property theorems only (helper lemmas live in `Tv/Lemmas/C03*.lean`). The models
(`Tv/Model/C03Cmp.lean`, `Tv/Model/C03Norm.lean`) transcribe the closures of
tea-rolling/src/cmp.rs and norm.rs; the right-hand sides are the from-scratch definitions of
`Tv/Spec/C03Order.lean` evaluated on `window xs i w` (positions `max(0,i-w+1) ..= i`).

All `*_exact` statements hold for every series (any values, any null pattern, any length),
every window `w ≥ 1` (also `w > len`), every `min_periods` (omitted or explicit, also `> w`),
at every position, for both driver shapes (`Shape.to`: two-phase loop of Vec / slice /
ndarray and of every caller-buffer path, `Shape.iter`: default iterator body of VecDeque /
Polars). Equality is equality of exact rationals: there is no tolerance anywhere.

The model of `ts_vargmin` / `ts_vargmax` is the model of the *repaired* code (commit
`fix: ts_vargmin/ts_vargmax return null for an all-null window`); `vargmin_pinned_wrong` /
`vargmax_pinned_wrong` exhibit the pinned behaviour (finding F24).
-/
namespace Tv.C03
open Tv

/-! ## the seven entry points -/

/-- **rolling minimum** = least non-null element of the window (null when there is none or
fewer than `min_periods` non-null elements) -/
theorem vmin_exact (sh : Shape) (xs : List (Option Rat)) (w : Nat) (mp : Option Nat) (hw : 1 ≤ w) :
    tsVmin sh xs w mp =
      (List.range xs.length).map fun i => Spec.tsMin (cmpMp mp w xs.length) (window xs i w) :=
  tsCmp_exact leNL_ok extFn_least .val (Or.inl rfl) sh xs w mp hw

/-- **rolling maximum** = greatest non-null element of the window -/
theorem vmax_exact (sh : Shape) (xs : List (Option Rat)) (w : Nat) (mp : Option Nat) (hw : 1 ≤ w) :
    tsVmax sh xs w mp =
      (List.range xs.length).map fun i => Spec.tsMax (cmpMp mp w xs.length) (window xs i w) :=
  tsCmp_exact geNL_ok extFn_greatest .val (Or.inl rfl) sh xs w mp hw

/-- **rolling arg-min** = 1-based offset from the window start of the most recent position
holding the minimum; null for an all-null window -/
theorem vargmin_exact (sh : Shape) (xs : List (Option Rat)) (w : Nat) (mp : Option Nat) (hw : 1 ≤ w) :
    tsVargmin sh xs w mp =
      (List.range xs.length).map fun i => Spec.tsArgmin (cmpMp mp w xs.length) (window xs i w) :=
  tsCmp_exact leNL_ok extFn_least .arg (Or.inr rfl) sh xs w mp hw

/-- **rolling arg-max** = 1-based offset of the most recent position holding the maximum -/
theorem vargmax_exact (sh : Shape) (xs : List (Option Rat)) (w : Nat) (mp : Option Nat) (hw : 1 ≤ w) :
    tsVargmax sh xs w mp =
      (List.range xs.length).map fun i => Spec.tsArgmax (cmpMp mp w xs.length) (window xs i w) :=
  tsCmp_exact geNL_ok extFn_greatest .arg (Or.inr rfl) sh xs w mp hw

/-- **rolling rank** = average rank of the current element among the non-null elements of its
window, ascending or descending (`rev`), optionally divided by their number (`pct`); null when
the current element is null -/
theorem vrank_exact (sh : Shape) (xs : List (Option Rat)) (w : Nat) (mp : Option Nat)
    (pct rev : Bool) (hw : 1 ≤ w) :
    tsVrank sh xs w mp pct rev =
      (List.range xs.length).map fun i =>
        Spec.tsRank (cmpMp mp w xs.length) pct rev (window xs i w) :=
  tsVrank_exact sh xs w mp pct rev hw

/-- **min-max normalisation** = `(x - min) / (max - min)` over the non-null window; null when
`x` is null, below `min_periods`, or `max = min` -/
theorem vminmaxnorm_exact (sh : Shape) (xs : List (Option Rat)) (w : Nat) (mp : Option Nat)
    (hw : 1 ≤ w) :
    tsVminmaxnorm sh xs w mp =
      (List.range xs.length).map fun i => Spec.tsMinmaxnorm (normMp mp w) (window xs i w) :=
  tsVminmaxnorm_exact sh xs w mp hw

/-- **z-score** = `(x - mean) / sample-std` over the non-null window (as `sign · sqrt` of an
exact quotient); null when `x` is null, below `min_periods`, or the spread is zero -/
theorem vzscore_exact (sh : Shape) (xs : List (Option Rat)) (w : Nat) (mp : Option Nat)
    (hw : 1 ≤ w) :
    tsVzscore sh xs w mp =
      (List.range xs.length).map fun i => Spec.tsZscore (normMp mp w) (window xs i w) :=
  tsVzscore_exact sh xs w mp hw

/-! ## what the from-scratch definitions mean (so that the right-hand sides above say what
the property says) -/

/-- `Spec.least` is *the* least element: a member that is `≤` every member -/
theorem least_is_min (vs : List Rat) (m : Rat) :
    Spec.least vs = some m ↔ (m ∈ vs ∧ ∀ a ∈ vs, m ≤ a) := by
  constructor
  · intro h; have := least_spec vs; rw [h] at this; exact this
  · intro ⟨h1, h2⟩; exact least_char vs m h1 h2

/-- `Spec.greatest` is *the* greatest element -/
theorem greatest_is_max (vs : List Rat) (m : Rat) :
    Spec.greatest vs = some m ↔ (m ∈ vs ∧ ∀ a ∈ vs, a ≤ m) := by
  constructor
  · intro h; have := greatest_spec vs; rw [h] at this; exact this
  · intro ⟨h1, h2⟩; exact greatest_char vs m h1 h2

/-- no extreme exactly for a window without non-null elements -/
theorem least_none_iff (vs : List Rat) : Spec.least vs = none ↔ vs = [] := by
  constructor
  · intro h; have := least_spec vs; rw [h] at this; exact this
  · intro h; subst h; rfl

/-- **rolling minimum ≤ rolling maximum, null together**: at every position the two outputs are
either both null or both values `a ≤ b` -/
theorem vmin_le_vmax (sh : Shape) (xs : List (Option Rat)) (w : Nat) (mp : Option Nat) (hw : 1 ≤ w)
    (i : Nat) (hi : i < xs.length) :
    ((tsVmin sh xs w mp)[i]? = some .null ∧ (tsVmax sh xs w mp)[i]? = some .null) ∨
    ∃ a b, (tsVmin sh xs w mp)[i]? = some (.val a) ∧ (tsVmax sh xs w mp)[i]? = some (.val b) ∧
      a ≤ b := by
  rw [vmin_exact sh xs w mp hw, vmax_exact sh xs w mp hw]
  simp only [List.getElem?_map, List.getElem?_range hi, Option.map_some]
  unfold Spec.tsMin Spec.tsMax Spec.masked
  split
  · cases hl : Spec.least (Spec.vals (window xs i w)) with
    | none =>
      have he := (least_none_iff _).1 hl
      left
      simp [he, Spec.ofOpt, Spec.greatest]
    | some a =>
      have ha := (least_is_min _ a).1 hl
      cases hg : Spec.greatest (Spec.vals (window xs i w)) with
      | none =>
        exfalso
        have : Spec.vals (window xs i w) ≠ [] := List.ne_nil_of_mem ha.1
        have hs := greatest_spec (Spec.vals (window xs i w))
        rw [hg] at hs
        exact this hs
      | some b =>
        have hb := (greatest_is_max _ b).1 hg
        right
        exact ⟨a, b, by simp [Spec.ofOpt], by simp [Spec.ofOpt], ha.2 b hb.1⟩
  · left; simp

/-- `Spec.lastPos m l` is the 1-based offset of the most recent position holding `m` (ties
resolve to the newest element) -/
theorem lastPos_is_most_recent (m : Rat) (L : List (Option Rat)) (p : Nat) (hp : p < L.length)
    (hat : L[p]? = some (some m))
    (hlast : ∀ q, p < q → q < L.length → L[q]? ≠ some (some m)) :
    Spec.lastPos m L = some (p + 1) :=
  lastPos_char m L p hp hat hlast

/-- ascending and descending average ranks are mirror images: they add up to `n + 1` -/
theorem avgRank_asc_add_desc (v : Rat) (vs : List Rat) :
    Spec.avgRank false v vs + Spec.avgRank true v vs = (vs.length : Rat) + 1 := by
  unfold Spec.avgRank
  simp only [Bool.false_eq_true, if_false, if_true]
  rw [count_trichotomy_cast v vs]; ring

/-! ## the cached-extreme invariant -/

/-- the invariant carried by `(min, min_idx)` determines the pair: it is the minimum of the
window in the null-last order together with the *last* position attaining it -/
theorem cached_min_unique (g : Nat → Option Rat) (lo hi : Nat) (s t : ExtSt)
    (hs : IsExtLast leNL g lo hi s) (ht : IsExtLast leNL g lo hi t) : s = t :=
  isExtLast_unique leNL_ok leNL_antisymm g lo hi s t hs ht

theorem cached_max_unique (g : Nat → Option Rat) (lo hi : Nat) (s t : ExtSt)
    (hs : IsExtLast geNL g lo hi s) (ht : IsExtLast geNL g lo hi t) : s = t :=
  isExtLast_unique geNL_ok geNL_antisymm g lo hi s t hs ht

/-- ... and it means what it should: the cached value is the least non-null element of the
window (`none` exactly when the window is all-null) and the cached index is the most recent
position holding it -/
theorem cached_min_is_least (g : Nat → Option Rat) (lo hi : Nat) (m : ExtSt)
    (h : IsExtLast leNL g lo hi m) :
    Spec.least (Spec.vals (winL g lo hi)) = m.1 ∧
    ∀ v k, m.1 = some v → m.2 = some k → Spec.lastPos v (winL g lo hi) = some (k - lo + 1) :=
  ⟨extFn_least g lo hi m h, fun v k hv hk => lastPos_of_isExtLast leNL_ok g lo hi m v k h hv hk⟩

theorem cached_max_is_greatest (g : Nat → Option Rat) (lo hi : Nat) (m : ExtSt)
    (h : IsExtLast geNL g lo hi m) :
    Spec.greatest (Spec.vals (winL g lo hi)) = m.1 ∧
    ∀ v k, m.1 = some v → m.2 = some k → Spec.lastPos v (winL g lo hi) = some (k - lo + 1) :=
  ⟨extFn_greatest g lo hi m h, fun v k hv hk => lastPos_of_isExtLast geNL_ok g lo hi m v k h hv hk⟩

/-- after every call the cached pair of `ts_vmin` / `ts_vargmin` satisfies the invariant for
the current window `lo W i ..= i` and the valid count is the number of non-null elements that
remain for the next window (state-level statement behind `vmin_exact`) -/
theorem cached_min_invariant (pj : Proj) (hp : pj = .val ∨ pj = .arg) (g : Nat → Option Rat)
    (W : Nat) (hW : 1 ≤ W) (mp i : Nat) (st : CmpSt) (h : CmpInv leNL g W i st) :
    CmpInv leNL g W (i+1) (cmpStep leNL pj g mp st (startAt W i, i, g i)).1 :=
  (cmpStep_inv leNL_ok extFn_least pj hp g W mp i st h).1

/-- the rescan branch (expired extreme) re-establishes the invariant from any state -/
theorem rescan_reestablishes (g : Nat → Option Rat) (st : ExtSt) (s e : Nat) (h : s ≤ e) :
    IsExtLast leNL g s e (rescan leNL g st s e) :=
  rescan_spec leNL_ok g st s e h

/-- `ts_vrank` evaluates `start.unwrap()` only when `start` is `Some` -/
theorem vrank_unwrap_safe (sh : Shape) (xs : List (Option Rat)) (w : Nat) (hw : 1 ≤ w) :
    ∀ c ∈ idxCalls sh xs (min xs.length w), c.2.1 ≥ min xs.length w - 1 → c.1.isSome = true := by
  intro c hc hge
  by_cases hx : xs = []
  · subst hx; rw [idxCalls_nil] at hc; cases hc
  · have hlen : 1 ≤ xs.length := List.length_pos_iff.2 hx
    have hW : 1 ≤ min xs.length w := by omega
    rw [idxCalls_eq_map sh xs _ hW, effW_min] at hc
    obtain ⟨i, _, rfl⟩ := List.mem_map.mp hc
    simp only [startAt] at hge ⊢
    simp only [ge_iff_le] at hge
    simp [hge]

/-! ## finding F24: the pinned arg functions on an all-null window -/

/-- pinned `ts_vargmin`, `min_periods = 0`, window `[null, null]`: returns offset 2 where
the specification (no minimum exists) is null -/
theorem vargmin_pinned_wrong :
    tsVargminPinned .to [some 1, none, none] 2 (some 0) = [.val 1, .val 1, .val 2] ∧
    ((List.range 3).map fun i => Spec.tsArgmin (cmpMp (some 0) 2 3) (window [some 1, none, none] i 2))
      = [.val 1, .val 1, .null] ∧
    tsVargmin .to [some 1, none, none] 2 (some 0) = [.val 1, .val 1, .null] := by
  decide +kernel

theorem vargmax_pinned_wrong :
    tsVargmaxPinned .iter [none] 1 (some 0) = [.val 1] ∧
    ((List.range 1).map fun i => Spec.tsArgmax (cmpMp (some 0) 1 1) (window [none] i 1)) = [.null] ∧
    tsVargmax .iter [none] 1 (some 0) = [.null] := by
  decide +kernel

/-! ## ties to the source (regenerated by the translator on every run) -/

/-- the mask expressions, window clamp and driver of the seven entry points, as extracted from
cmp.rs / norm.rs, are the ones the model is built from: the cmp family clamps `window` to
`len` first and never clamps `min_periods` (`cmpMp`), the norm family clamps `min_periods` to
the requested window (`normMp`); zscore uses `rolling_apply`, the others `rolling_apply_idx` -/
theorem maskTable_matches :
    Generated.maskTable.filter (fun r => r.1 ∈ ["ts_vmin", "ts_vmax", "ts_vargmin", "ts_vargmax",
      "ts_vrank", "ts_vminmaxnorm", "ts_vzscore"]) =
    [("ts_vargmax", false, true, 0, "rolling_apply_idx", "std"),
     ("ts_vargmin", false, true, 0, "rolling_apply_idx", "std"),
     ("ts_vmax", false, true, 0, "rolling_apply_idx", "std"),
     ("ts_vmin", false, true, 0, "rolling_apply_idx", "std"),
     ("ts_vminmaxnorm", true, false, 0, "rolling_apply_idx", "std"),
     ("ts_vrank", false, true, 0, "rolling_apply_idx", "std"),
     ("ts_vzscore", true, false, 0, "rolling_apply", "std")] := by
  decide +kernel

/-- `EPS` of the z-score spread test is the constant of tea-core/src/prelude.rs -/
theorem eps_matches : EPS = (Generated.epsNum : Rat) / (Generated.epsDen : Rat) ∧ Spec.EPS = EPS := by
  decide +kernel

/-! ## non-vacuity: concrete series with nulls, ties, an expiring extreme, an all-null window,
`w > len`, both shapes -/

example : tsVmin .to [some 3, some 1, none, some 1, none, none, none, some 2] 3 (some 1) =
    [.val 3, .val 1, .val 1, .val 1, .val 1, .val 1, .null, .val 2] := by decide +kernel
example : tsVmax .iter [some 3, some 1, none, some 1, none, none, none, some 2] 3 none =
    [.val 3, .val 3, .val 3, .val 1, .val 1, .val 1, .null, .val 2] := by decide +kernel
example : tsVargmin .to [some 3, some 1, none, some 1, none, none, none, some 2] 3 (some 0) =
    [.val 1, .val 2, .val 2, .val 3, .val 2, .val 1, .null, .val 3] := by decide +kernel
example : tsVargmax .to [some 2, some 2, some 1, some 2, some 0] 9 (some 1) =
    [.val 1, .val 2, .val 2, .val 4, .val 4] := by decide +kernel
example : tsVrank .to [some 3, some 1, none, some 1, some 2] 3 none false false =
    [.val 1, .val 1, .null, .val (3/2), .val 2] := by decide +kernel
example : tsVrank .iter [some 3, some 1, none, some 1, some 2] 3 (some 1) true true =
    [.val 1, .val 1, .null, .val (3/4), .val (1/2)] := by decide +kernel
example : tsVminmaxnorm .to [some 3, some 1, none, some 1, some 2, some (3/2)] 3 none =
    [.null, .val 0, .null, .null, .val 1, .val (1/2)] := by decide +kernel
example : tsVzscore .iter [some 3, some 1, none, some 1, some 2] 3 none =
    [.null, .root (-1) (1/2), .null, .null, .root 1 (1/2)] := by decide +kernel
example : IsExtLast leNL (get [some 3, some 1, none, some 1]) 1 3 (some 1, some 3) :=
  rescan_spec leNL_ok _ (none, none) 1 3 (by decide)

end Tv.C03
