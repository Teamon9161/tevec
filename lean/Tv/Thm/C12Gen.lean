import Tv.GenPart
import Tv.GenAgg
import Tv.Lemmas.GenSim
import Tv.Thm.C12
import Mathlib.Data.List.Induction
/-!
# C12 — `vpartition` / `varg_partition` regenerated from tea-map/src/vec_map.rs are the model's

`Tv.GenPart.<fn>.run` threads the in-place updates of the scratch vector in source order
(translator/parts.py); std's `sort_unstable_by` / `select_nth_unstable_by` are the abstract `S :
C12.Std` with the documented contract `S.Ok`.  Proved: the regenerated functions equal the model
(`*_eq`), hence the order-statistic specification (`*_spec` via `C12.partition_exact` /
`argpartition_exact`); and the returned iterator yields exactly the length it announces
(`*_trusted`), which is `kth + 1` on every path.  Last, `vpercentile_of` regenerated from
tea-agg/src/lib.rs (`Tv.GenAgg`, translator/aggs.py) agrees with the model (`vpercentile_of_agree`).
-/
namespace Tv.C12Gen
open Tv Tv.GenSim Tv.C12

theorem valid_length_eq_filter (xs : List Elem) : (valid xs).length = (xs.filter Option.isSome).length :=
  ((congrArg List.length (filter_isSome_eq xs)).trans (List.length_map _)).symm

theorem sort_rev (S : Std) (rev : Bool) (l : List Elem) :
    (if rev = false then S.sort (leE false) l else S.sort (leE true) l) = S.sort (leE rev) l := by
  cases rev <;> rfl

theorem cmp_rev (rev : Bool) : (if rev = false then leE false else leE true) = leE rev := by
  cases rev <;> rfl

theorem select_head_length {S : Std} (hS : S.Ok) {α : Type} (le : α → α → Bool)
    (htot : ∀ a b, le a b = true ∨ le b a = true) (htr : ∀ a b c, le a b = true → le b c = true → le a c = true)
    (l : List α) (j : Nat) (h : List α) (m : α) (t : List α) (hj : j < l.length)
    (hs : S.select le l j = some (h, m, t)) : h.length = j := by
  obtain ⟨h', m', t', e, _, hl, _⟩ := hS.select_spec le htot htr l j hj
  rw [e] at hs
  cases hs
  exact hl

theorem take_head (h : List α) (m : α) (t : List α) (k : Nat) (hl : h.length = k) :
    (h ++ m :: t).take (k + 1) = h ++ [m] := by
  subst hl
  rw [List.take_append, List.take_of_length_le (Nat.le_succ _), Nat.add_sub_cancel_left]
  rfl

theorem vpartition_eq {S : Std} (hS : S.Ok) (xs : List Elem) (kth : Nat) (sort rev : Bool) :
    GenPart.vpartition.run S xs kth sort rev = C12.vpartition S xs kth sort rev := by
  unfold GenPart.vpartition.run C12.vpartition
  simp only [valid_length_eq_filter, decide_eq_true_eq, Bool.and_eq_true, Bool.not_eq_true', sort_rev, cmp_rev]
  by_cases h1 : (xs.filter Option.isSome).length = kth + 1 ∧ sort = false
  · rw [if_pos h1, if_pos h1]
  · by_cases h2 : (xs.filter Option.isSome).length ≤ kth + 1
    · rw [if_neg h1, if_neg h1, if_pos h2, if_pos h2]
    · have hj : kth < xs.length := by
        have := List.length_filter_le Option.isSome xs
        omega
      simp only [h1, h2, if_false]
      split
      · next hsel => rw [hsel]
      · next h m t hsel =>
        rw [hsel, take_head h m t kth
          (select_head_length hS _ (leE_total rev) (leE_trans rev) xs kth h m t hj hsel)]

theorem idx_sort_rev (S : Std) (rev : Bool) (xs : List Elem) (l : List Nat) :
    (if rev = false then S.sort (leIdx false xs) l else S.sort (leIdx true xs) l) = S.sort (leIdx rev xs) l := by
  cases rev <;> rfl

theorem enumerate_append_singleton {α : Type} (ys : List α) (v : α) :
    Gen.enumerate (ys ++ [v]) = Gen.enumerate ys ++ [(ys.length, v)] := by
  unfold Gen.enumerate
  simp only [List.length_append, List.length_singleton, List.range_succ]
  rw [List.zip_append (by simp)]
  simp

theorem validIdx_append_singleton (ys : List Elem) (v : Elem) :
    validIdx (ys ++ [v]) = validIdx ys ++ (if v.isSome then [ys.length] else []) := by
  unfold validIdx
  rw [List.length_append, List.length_singleton, List.range_succ, List.filter_append]
  congr 1
  · apply List.filter_congr
    intro i hi
    rw [List.getD_eq_getElem?_getD, List.getD_eq_getElem?_getD,
      List.getElem?_append_left (List.mem_range.mp hi)]
  · have e : (ys ++ [v]).getD ys.length none = v := by
      rw [List.getD_eq_getElem?_getD, List.getElem?_append_right (Nat.le_refl _), Nat.sub_self]
      rfl
    rw [List.filter_singleton, e]
    cases v <;> rfl

theorem enum_filterMap (F : Nat × Elem → Option Int)
    (hF : ∀ i v, F (i, v) = if v.isSome then some (Int.ofNat i) else none) (xs : List Elem) :
    (Gen.enumerate xs).filterMap F = (validIdx xs).map Int.ofNat := by
  induction xs using List.reverseRecOn with
  | nil => rfl
  | append_singleton ys v ih =>
    rw [enumerate_append_singleton, validIdx_append_singleton, List.filterMap_append, ih, List.map_append]
    congr 1
    simp only [List.filterMap_cons, List.filterMap_nil, hF]
    cases v <;> simp

theorem varg_partition_eq {S : Std} (hS : S.Ok) (xs : List Elem) (kth : Nat) (sort rev : Bool) :
    GenPart.varg_partition.run S xs kth sort rev = C12.vargPartition S xs kth sort rev := by
  unfold GenPart.varg_partition.run C12.vargPartition
  simp only [valid_length_eq_filter, decide_eq_true_eq, Bool.not_eq_true', idx_sort_rev]
  by_cases h2 : (xs.filter Option.isSome).length ≤ kth + 1
  · simp only [h2, if_true]
    cases sort
    · simp only [if_true]
      rw [enum_filterMap _ (fun i v => by cases v <;> rfl) xs]
    · rfl
  · have hj : kth < (List.range xs.length).length := by
      have := List.length_filter_le Option.isSome xs
      simp; omega
    simp only [h2, if_false]
    cases rev
    all_goals
      simp only [Bool.true_eq_false, ↓reduceIte]
      split
      · next hsel => rw [hsel]
      · next h m t hsel =>
        rw [hsel, take_head h m t kth
          (select_head_length hS _ (leIdx_total _ xs) (leIdx_trans _ xs) _ kth h m t hj hsel)]

/-- the regenerated `vpartition` never panics and returns exactly `kth + 1` entries: a rearrangement of
the `kth + 1` smallest (largest when `rev`) non-null elements, null-padded, in order when `sort` -/
theorem vpartition_spec {S : Std} (hS : S.Ok) (xs : List Elem) (kth : Nat) (sort rev : Bool) :
    ∃ r, GenPart.vpartition.run S xs kth sort rev = some r ∧ r.length = kth + 1 ∧
      r.Perm (Spec.partition xs kth rev) ∧ (sort = true → r = Spec.partition xs kth rev) := by
  rw [vpartition_eq hS]; exact C12.partition_exact hS xs kth sort rev

theorem varg_partition_spec {S : Std} (hS : S.Ok) (xs : List Elem) (kth : Nat) (sort rev : Bool) :
    ∃ r idx, GenPart.varg_partition.run S xs kth sort rev = some r ∧ r.length = kth + 1 ∧ ArgOk xs kth r idx ∧
      (argValues xs kth idx).Perm (Spec.partition xs kth rev) ∧
      (sort = true → argValues xs kth idx = Spec.partition xs kth rev) := by
  rw [varg_partition_eq hS]; exact C12.argpartition_exact hS xs kth sort rev

/-! ## the announced length

`announced` is `run` with `kth + 1` in place of every returned list, and the specification gives every
returned list that length. -/

theorem vpartition_announced (S : Std) (xs : List Elem) (kth : Nat) (sort rev : Bool) :
    GenPart.vpartition.announced S xs kth sort rev =
      (GenPart.vpartition.run S xs kth sort rev).map fun _ => kth + 1 := by
  unfold GenPart.vpartition.run GenPart.vpartition.announced
  dsimp only
  by_cases h1 : (decide ((xs.filter Option.isSome).length = kth + 1) && !sort) = true
  · rw [if_pos h1, if_pos h1]; rfl
  · rw [if_neg h1, if_neg h1]
    by_cases h2 : decide ((xs.filter Option.isSome).length ≤ kth + 1) = true
    · rw [if_pos h2, if_pos h2]
      cases sort <;> rfl
    · rw [if_neg h2, if_neg h2]
      cases S.select (if (!rev) = true then leE false else leE true) xs kth <;> rfl

theorem varg_partition_announced (S : Std) (xs : List Elem) (kth : Nat) (sort rev : Bool) :
    GenPart.varg_partition.announced S xs kth sort rev =
      (GenPart.varg_partition.run S xs kth sort rev).map fun _ => kth + 1 := by
  unfold GenPart.varg_partition.run GenPart.varg_partition.announced
  dsimp only
  by_cases h2 : decide ((xs.filter Option.isSome).length ≤ kth + 1) = true
  · rw [if_pos h2, if_pos h2]
    cases sort <;> rfl
  · rw [if_neg h2, if_neg h2]
    cases rev
    · cases S.select (leIdx false xs) (List.range xs.length) kth <;> rfl
    · cases S.select (leIdx true xs) (List.range xs.length) kth <;> rfl

/-- `vpartition`: on every path that returns, the iterator yields exactly the `kth + 1` items it announces -/
theorem vpartition_trusted {S : Std} (hS : S.Ok) (xs : List Elem) (kth : Nat) (sort rev : Bool) :
    (GenPart.vpartition.run S xs kth sort rev).map List.length = GenPart.vpartition.announced S xs kth sort rev := by
  obtain ⟨r, hr, hl, _⟩ := vpartition_spec hS xs kth sort rev
  rw [vpartition_announced, hr]
  exact congrArg some hl

theorem varg_partition_trusted {S : Std} (hS : S.Ok) (xs : List Elem) (kth : Nat) (sort rev : Bool) :
    (GenPart.varg_partition.run S xs kth sort rev).map List.length
      = GenPart.varg_partition.announced S xs kth sort rev := by
  obtain ⟨r, _, hr, hl, _⟩ := varg_partition_spec hS xs kth sort rev
  rw [varg_partition_announced, hr]
  exact congrArg some hl

/-! ## `vpercentile_of` (tea-agg/src/lib.rs), regenerated by aggs.py -/

def pm : Gen.PctMethod → PMethod
  | .rank => .rank
  | .weak => .weak
  | .strict => .strict

/-- the `for_each` closure of `vpercentile_of` with its three counters -/
theorem fold_pct (score : Rat) (F : Nat × Nat × Nat → Elem → Nat × Nat × Nat)
    (hF : ∀ tot lt eq v, F (tot, lt, eq) v =
      ((pctStep score (lt, eq, tot) v).2.2, (pctStep score (lt, eq, tot) v).1, (pctStep score (lt, eq, tot) v).2.1))
    (xs : List Elem) (lt eq tot : Nat) :
    List.foldl F (tot, lt, eq) xs =
      ((xs.foldl (pctStep score) (lt, eq, tot)).2.2, (xs.foldl (pctStep score) (lt, eq, tot)).1,
       (xs.foldl (pctStep score) (lt, eq, tot)).2.1) := by
  induction xs generalizing lt eq tot with
  | nil => rfl
  | cons v xs ih =>
    rw [List.foldl_cons, List.foldl_cons, hF]
    exact ih _ _ _

theorem vpercentile_of_agree (sqrt : Rat → Rat) (xs : List Elem) (score : Elem) (m : Gen.PctMethod) :
    Agree sqrt (GenAgg.vpercentile_of.run sqrt xs score m) (C12.vpercentileOf xs score (pm m)) := by
  unfold GenAgg.vpercentile_of.run C12.vpercentileOf
  cases score with
  | none => simp only [Agree]
  | some s =>
    simp only []
    rw [fold_pct s _ (fun tot lt eq v => by
      cases v with
      | none => simp only [pctStep]
      | some x =>
        by_cases h1 : x < s
        · simp only [h1, decide_true, ↓reduceIte, pctStep]
        · by_cases h2 : x = s
          · simp only [h2, lt_self_iff_false, decide_false, Bool.false_eq_true, ↓reduceIte,
              decide_true, pctStep]
          · simp only [h1, decide_false, Bool.false_eq_true, ↓reduceIte, h2, pctStep]) xs 0 0 0]
    generalize xs.foldl (pctStep s) (0, 0, 0) = c
    obtain ⟨lt, eq, tot⟩ := c
    by_cases h0 : tot = 0
    · simp only [Agree, h0, ↓reduceIte, decide_true]
    · have hq : ((tot : Nat) : Rat) ≠ 0 := by exact_mod_cast h0
      cases m <;> simp only [pm, h0, decide_false, if_false, Bool.false_eq_true]
      · by_cases he : eq > 1
        · simp only [Agree, gt_iff_lt, he, ↓reduceIte, Out.div, hq, Nat.cast_add, Nat.cast_one,
            one_div, decide_true]
        · simp only [Agree, gt_iff_lt, he, ↓reduceIte, Out.div, hq, Nat.cast_add, decide_false,
            Bool.false_eq_true]
      · simp only [Agree, Out.div, hq, ↓reduceIte, Nat.cast_add]
      · simp only [Agree, Out.div, hq, ↓reduceIte]

theorem functions_present :
    GenPart.functions = ["vpartition", "varg_partition"] ∧ GenPart.vpartition.parsed = true ∧
    GenPart.varg_partition.parsed = true := ⟨rfl, rfl, rfl⟩
end Tv.C12Gen
