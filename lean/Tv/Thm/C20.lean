import Tv.Generated
import Tv.Lemmas.C20HalfLife
import Tv.Lemmas.C20Clip
import Tv.Lemmas.C20Rank
import Tv.Lemmas.C20Quantile
import Mathlib.Tactic.Linarith
/-!
# C20 — composite analytics terminate within range and respect their defining relations

Property theorems, with their witnesses and the few lemmas only they use (the other lemmas:
`Tv/Lemmas/C20*.lean`).

* `half_life` (tevec/src/agg.rs) is the transcribed doubling + bisection search
  (`Tv.C20.halfLife`) over an oracle `c : Nat → Cls` that classifies the lag autocorrelation
  `vcorr_pearson(self, vshift(self, lag))`. `OracleOk c len` is the only fact used about the
  oracle: a correlation above 0.5 needs two valid pairs, so `c l = above → l + 2 ≤ len`.
  The model is the *repaired* code (two `fix:` commits); `halfLife_pinned_wrong` and
  `halfLife_break_wrong` keep concrete witnesses of the two old behaviours.
* `winsorize` (tevec/src/map.rs) is `vclip` applied with the bounds of the chosen method; the
  clipping laws are proved for *every* pair of bounds, hence for all three methods.
* Spearman `vcorr` is `vcorr_pearson` of the two average-rank vectors.
-/
namespace Tv.C20
open Tv

/-- **termination**: for every oracle and every length neither `while` loop runs out of the fuel
the model gives it (`len + 1` doubling steps, `len` bisection steps) -/
theorem halfLife_terminates (c : Nat → Cls) (len : Nat) : halfLife c len ≠ .timeout := by
  unfold halfLife
  by_cases h0 : len = 0
  · rw [if_pos h0]; exact fun h => Res.noConfusion h
  · rw [if_neg h0]
    obtain ⟨r0, hr0⟩ := doubling_init_some c len
    rw [hr0]
    exact bisect_ne_timeout c len _ _ (Nat.pos_of_ne_zero h0)
      (Nat.lt_of_le_of_lt (Nat.min_le_right _ _) (by omega))

/-- the fuel handed to the two loops suffices (same fact, stated on the loops) -/
theorem halfLife_fuel_suffices (c : Nat → Cls) (len : Nat) (h0 : len ≠ 0) :
    (∃ r0, doubling c len (len + 1) 0 0 0 = some r0) ∧
    ∀ n last, n ≤ len - 1 → bisect c len n last ≠ .timeout :=
  ⟨doubling_init_some c len,
   fun n last hn => bisect_ne_timeout c len n last (Nat.pos_of_ne_zero h0) (by omega)⟩

/-- **no panic**: the `usize` subtraction `n - last_n` never underflows -/
theorem halfLife_no_panic (c : Nat → Cls) (len : Nat) (h : OracleOk c len) :
    ∃ r, halfLife c len = .ok r := by
  rcases Nat.lt_or_ge len 2 with hl | hl
  · exact ⟨0, halfLife_small c len h hl⟩
  · obtain ⟨r, hr, _⟩ := halfLife_ok c len h hl
    exact ⟨r, hr⟩

/-- **range**: the lag is at most `len - 1`, and it is 0 exactly for series shorter than two -/
theorem halfLife_range (c : Nat → Cls) (len r : Nat) (h : OracleOk c len)
    (hr : halfLife c len = .ok r) : r ≤ len - 1 ∧ (r = 0 ↔ len < 2) := by
  rcases Nat.lt_or_ge len 2 with hl | hl
  · rw [halfLife_small c len h hl] at hr
    cases hr
    exact ⟨Nat.zero_le _, iff_of_true rfl hl⟩
  · obtain ⟨r', hr', h1, h2, _⟩ := halfLife_ok c len h hl
    rw [hr'] at hr; cases hr
    exact ⟨h2, by omega⟩

/-- **bracket invariant, at exit**: whatever the oracle, the returned lag is a down-crossing —
the autocorrelation at `r` is not above 0.5 and at `r - 1` it is (or `r = 1`) -/
theorem halfLife_crossing (c : Nat → Cls) (len r : Nat) (h : OracleOk c len) (hl : 2 ≤ len)
    (hr : halfLife c len = .ok r) : c r ≠ .above ∧ (r = 1 ∨ c (r - 1) = .above) := by
  obtain ⟨r', hr', _, _, h3, h4⟩ := halfLife_ok c len h hl
  rw [hr'] at hr; cases hr
  exact ⟨h3, h4⟩

/-- on a threshold oracle the only down-crossing is at `L + 1` -/
theorem crossing_unique {c : Nat → Cls} {L r : Nat} (ht : ∀ l, 1 ≤ l → (c l = .above ↔ l ≤ L))
    (h1 : 1 ≤ r) (h3 : c r ≠ .above) (h4 : r = 1 ∨ c (r - 1) = .above) : r = L + 1 := by
  have hgt : L < r := Nat.lt_of_not_le fun g => h3 ((ht r h1).2 g)
  rcases h4 with e | ha
  · omega
  · rcases Nat.lt_or_ge (r - 1) 1 with g | g
    · omega
    · have := (ht (r - 1) g).1 ha; omega

/-- **threshold characterisation**: if the autocorrelation stays above 0.5 exactly up to lag `L`,
the half-life is the first lag at which it is not, capped at `len - 1` -/
theorem halfLife_threshold (c : Nat → Cls) (len L r : Nat) (h : OracleOk c len)
    (ht : ∀ l, 1 ≤ l → (c l = .above ↔ l ≤ L)) (hr : halfLife c len = .ok r) :
    r = min (L + 1) (len - 1) := by
  rcases Nat.lt_or_ge len 2 with hl | hl
  · have := (halfLife_range c len r h hr)
    omega
  · obtain ⟨r', hr', h1, h2, h3, h4⟩ := halfLife_ok c len h hl
    rw [hr'] at hr; cases hr
    have := crossing_unique ht h1 h3 h4
    omega

/-- the from-scratch linear search agrees with the closed form on threshold oracles … -/
theorem spec_halfLife_threshold (c : Nat → Cls) (len L : Nat)
    (ht : ∀ l, 1 ≤ l → (c l = .above ↔ l ≤ L)) :
    Spec.halfLife c len = min (L + 1) (len - 1) := by
  unfold Spec.halfLife
  have hs := firstNotAbove_spec c len
  cases hf : Spec.firstNotAbove c len with
  | some f =>
    rw [hf] at hs
    obtain ⟨h1, h2, h3, h4⟩ := hs
    have := crossing_unique ht h1 h3
      (by rcases Nat.lt_or_ge f 2 with g | g
          · exact Or.inl (by omega)
          · exact Or.inr (h4 (f - 1) (by omega) (by omega)))
    rw [Option.getD_some, this]
  | none =>
    rw [hf] at hs
    rw [Option.getD_none]
    rcases len with _ | n
    · rfl
    · have := (ht (n + 1) (by omega)).1 (hs (n + 1) (by omega) (Nat.le_refl _))
      omega

/-- … hence **the transcribed search computes the specification** on every series whose
autocorrelation stays above 0.5 exactly up to some lag -/
theorem halfLife_eq_spec (c : Nat → Cls) (len L : Nat) (h : OracleOk c len)
    (ht : ∀ l, 1 ≤ l → (c l = .above ↔ l ≤ L)) :
    halfLife c len = .ok (Spec.halfLife c len) := by
  obtain ⟨r, hr⟩ := halfLife_no_panic c len h
  rw [hr, spec_halfLife_threshold c len L ht, halfLife_threshold c len L r h ht hr]

/-- the driver's executable test `Spec.thresholdShaped` recognises exactly those series -/
theorem thresholdShaped_iff (c : Nat → Cls) (len : Nat) (h : OracleOk c len) :
    Spec.thresholdShaped c len = true ↔ ∃ L, ∀ l, 1 ≤ l → (c l = .above ↔ l ≤ L) := by
  unfold Spec.thresholdShaped
  have hs := firstNotAbove_spec c len
  cases hf : Spec.firstNotAbove c len with
  | none =>
    rw [hf] at hs
    simp only [true_iff]
    refine ⟨len, fun l h1 => ⟨fun ha => ?_, fun hle => hs l h1 hle⟩⟩
    have := h l ha; omega
  | some f =>
    rw [hf] at hs
    obtain ⟨h1, h2, h3, h4⟩ := hs
    simp only [List.all_eq_true, List.mem_map, List.mem_range, Bool.or_eq_true, decide_eq_true_eq,
      forall_exists_index, and_imp, forall_apply_eq_imp_iff₂]
    constructor
    · intro hall
      refine ⟨f - 1, fun l hl1 => ⟨fun ha => ?_, fun hle => h4 l hl1 (by omega)⟩⟩
      have hlen := h l ha
      rcases hall (l - 1) (by omega) with g | g
      · omega
      · rw [show l - 1 + 1 = l by omega] at g; exact absurd ha g
    · rintro ⟨L, hL⟩ a _
      rcases Nat.lt_or_ge (a + 1) f with g | g
      · exact Or.inl g
      · right
        intro ha
        have h5 := (hL (a + 1) (by omega)).1 ha
        have h6 : ¬ f ≤ L := fun hle => h3 ((hL f h1).2 hle)
        omega

/-! ### the two defects of the pinned tree (F22 and the early `break`) -/

/-- autocorrelation above 0.5 exactly up to lag 40, below afterwards -/
def witness40 (l : Nat) : Cls := if 1 ≤ l ∧ l ≤ 40 then .above else .below

/-- the same with an undefined (NaN) autocorrelation after lag 40 — a pure trend of 64 values
with `min_periods = 24` -/
def witnessNaN (l : Nat) : Cls := if 1 ≤ l ∧ l ≤ 40 then .above else .nan

theorem witness40_ok : OracleOk witness40 64 := by
  intro l h
  unfold witness40 at h
  split at h
  · omega
  · cases h

theorem witnessNaN_ok : OracleOk witnessNaN 64 := by
  intro l h
  unfold witnessNaN at h
  split at h
  · omega
  · cases h

/-- **F22, pinned tree**: the `corr > 0.5` branch assigns `(last_n, n) = (life, last_n)`; on a
64-long series whose autocorrelation is above 0.5 exactly up to lag 40 the next `n - last_n`
underflows (panic in the debug profile, a wrong lag in release). `halfLife_no_panic` is false
for the pinned code. -/
theorem halfLife_pinned_wrong : halfLifeOld .pinned witness40 64 = .panic := by decide

/-- smallest witness of F22: five observations, autocorrelation above 0.5 at lags 1–3 -/
theorem halfLife_pinned_wrong_small :
    halfLifeOld .pinned (oracleOfString "aaann") 5 = .panic := by decide

/-- **second defect (early `break`)**: after the F22 repair alone — and equally on the pinned
tree — a NaN (or exactly 0.5) midpoint ends the bisection at once: lag 47 is returned although
the autocorrelation stops being above 0.5 at lag 41. `halfLife_threshold` is false for that code. -/
theorem halfLife_break_wrong :
    halfLifeOld .swapFixed witnessNaN 64 = .ok 47 ∧ halfLifeOld .pinned witnessNaN 64 = .ok 47 ∧
      halfLife witnessNaN 64 = .ok 41 := by decide

/-- the repaired code on the F22 witness -/
theorem halfLife_repaired_witness : halfLife witness40 64 = .ok 41 := by decide

/-! non-vacuity: the hypotheses of the theorems above are satisfiable on a non-trivial oracle -/
theorem witness40_threshold : ∀ l, 1 ≤ l → (witness40 l = .above ↔ l ≤ 40) := by
  intro l h1
  unfold witness40
  constructor
  · intro h
    split at h
    · omega
    · cases h
  · intro h; simp [h1, h]

example : OracleOk witness40 64 ∧ (∀ l, 1 ≤ l → (witness40 l = .above ↔ l ≤ 40)) :=
  ⟨witness40_ok, witness40_threshold⟩
example : halfLife witness40 64 = .ok (min (40 + 1) (64 - 1)) := by decide
/-- a non-monotone admissible oracle: the result is still a down-crossing -/
example : halfLife (oracleOfString "abaabnnnnn") 10 = .ok 2 := by decide

/-! ## winsorize

`winsorize m p xs = vclip lo hi xs` with `(lo, hi) = bounds m p xs` (`winsorize_is_vclip`), so the
clipping laws below — proved for **every** pair of bounds, present or NaN — hold for all three
methods, every parameter and every square-root function. -/

/-- winsorizing is clipping to the interval computed by the chosen method -/
theorem winsorize_is_vclip (sqrt : Rat → Rat) (m : Method) (p : Option Rat)
    (xs : List (Option Rat)) :
    winsorize sqrt m p xs = vclip (bounds sqrt m p xs).1 (bounds sqrt m p xs).2 xs := rfl

/-- **one value per input** -/
theorem vclip_length (lo hi : Option Rat) (xs : List (Option Rat)) :
    (vclip lo hi xs).length = xs.length := by
  rw [vclip_eq_map, List.length_map]

/-- **nulls stay null, values stay values** -/
theorem vclip_null (lo hi : Option Rat) (xs : List (Option Rat)) (i : Nat) :
    (vclip lo hi xs)[i]? = some none ↔ xs[i]? = some none := by
  rw [vclip_getElem?]
  cases xs[i]? with
  | none => simp
  | some v => cases v <;> simp

/-- **inside values are fixed**: a value within the (present) bounds is returned unchanged -/
theorem vclip_inside_fixed (lo hi : Option Rat) (xs : List (Option Rat)) (i : Nat) (x : Rat)
    (hx : xs[i]? = some (some x)) (hl : ∀ l, lo = some l → l ≤ x) (hh : ∀ h, hi = some h → x ≤ h) :
    (vclip lo hi xs)[i]? = some (some x) := by
  rw [vclip_getElem?, hx]
  simp [clipVal_inside lo hi x hl hh]

/-- **a value below the lower bound moves onto it** -/
theorem vclip_below_to_lo (l : Rat) (hi : Option Rat) (xs : List (Option Rat)) (i : Nat) (x : Rat)
    (hx : xs[i]? = some (some x)) (hlt : x < l) :
    (vclip (some l) hi xs)[i]? = some (some l) := by
  rw [vclip_getElem?, hx]
  simp [clipVal_below hi l x hlt]

/-- **a value above the upper bound moves onto it** (the bounds being ordered, this is the
nearer bound) -/
theorem vclip_above_to_hi (lo : Option Rat) (h : Rat) (xs : List (Option Rat)) (i : Nat) (x : Rat)
    (hx : xs[i]? = some (some x)) (hgt : h < x) (ho : Ordered lo (some h)) :
    (vclip lo (some h) xs)[i]? = some (some h) := by
  rw [vclip_getElem?, hx]
  simp [clipVal_above lo h x hgt ho]

/-- **clipping to one interval**: for ordered bounds the code's comparison chain is the textbook
`max lo (min x hi)` of the from-scratch specification -/
theorem vclip_is_clip (lo hi : Option Rat) (xs : List (Option Rat)) (ho : Ordered lo hi) :
    vclip lo hi xs = Spec.clip lo hi xs := by
  rw [vclip_eq_map]
  unfold Spec.clip
  apply List.map_congr_left
  intro v _
  cases v with
  | none => rfl
  | some x => simp [clipVal_eq_clip1 lo hi x ho]

/-- every output value lies within the (present, ordered) bounds -/
theorem vclip_within (lo hi : Option Rat) (xs : List (Option Rat)) (i : Nat) (y : Rat)
    (ho : Ordered lo hi) (hy : (vclip lo hi xs)[i]? = some (some y)) :
    (∀ l, lo = some l → l ≤ y) ∧ (∀ h, hi = some h → y ≤ h) := by
  rw [vclip_getElem?] at hy
  cases hx : xs[i]? with
  | none => simp [hx] at hy
  | some v =>
    cases v with
    | none => simp [hx] at hy
    | some x =>
      simp only [hx, Option.map_some, Option.some.injEq] at hy
      rw [← hy]
      exact clipVal_within lo hi x ho

/-- **order preserving**: for ordered bounds, `x ≤ y` at two positions implies the same for the
winsorized values -/
theorem vclip_monotone (lo hi : Option Rat) (xs : List (Option Rat)) (i j : Nat) (x y : Rat)
    (ho : Ordered lo hi) (hx : xs[i]? = some (some x)) (hy : xs[j]? = some (some y)) (hxy : x ≤ y) :
    ∃ x' y', (vclip lo hi xs)[i]? = some (some x') ∧ (vclip lo hi xs)[j]? = some (some y') ∧
      x' ≤ y' := by
  refine ⟨clipVal lo hi x, clipVal lo hi y, ?_, ?_, clipVal_mono lo hi x y ho hxy⟩
  · rw [vclip_getElem?, hx]; rfl
  · rw [vclip_getElem?, hy]; rfl

/-- **idempotent**: clipping a second time to the same ordered bounds changes nothing (every
clipped value already lies inside the interval) -/
theorem vclip_idempotent (lo hi : Option Rat) (xs : List (Option Rat)) (ho : Ordered lo hi) :
    vclip lo hi (vclip lo hi xs) = vclip lo hi xs := by
  apply List.ext_getElem?
  intro i
  rw [vclip_getElem?, vclip_getElem?]
  cases xs[i]? with
  | none => rfl
  | some v =>
    cases v with
    | none => rfl
    | some x =>
      have hw := clipVal_within lo hi x ho
      simp [clipVal_inside lo hi (clipVal lo hi x) hw.1 hw.2]

/-- without the ordering of the bounds clipping is *not* order preserving (so the ordering of
the three methods' bounds is what the "therefore" of the property rests on) -/
theorem vclip_unordered_not_monotone :
    vclip (some 2) (some 1) [some 0, some 3] = [some 2, some 1] := by decide

/-- the laws instantiated for the routine itself: length and nulls for all three methods -/
theorem winsorize_length (sqrt : Rat → Rat) (m : Method) (p : Option Rat)
    (xs : List (Option Rat)) : (winsorize sqrt m p xs).length = xs.length :=
  vclip_length _ _ xs

theorem winsorize_null (sqrt : Rat → Rat) (m : Method) (p : Option Rat)
    (xs : List (Option Rat)) (i : Nat) :
    (winsorize sqrt m p xs)[i]? = some none ↔ xs[i]? = some none :=
  vclip_null _ _ xs i

/-- centre ∓ a non-negative multiple of a non-negative spread -/
theorem sub_le_add_mul {c k s : Rat} (hk : 0 ≤ k) (hs : 0 ≤ s) : c - k * s ≤ c + k * s := by
  have := mul_nonneg hk hs
  linarith only [this]

theorem getD_nonneg {p : Option Rat} {d : Rat} (hd : 0 ≤ d) (hp : ∀ k, p = some k → 0 ≤ k) :
    0 ≤ p.getD d := by
  cases p with
  | none => exact hd
  | some k => exact hp k rfl

/-- **the Sigma bounds are ordered** for every multiplier `k ≥ 0` (any non-negative `sqrt`) -/
theorem bounds_sigma_ordered (sqrt : Rat → Rat) (hs : ∀ x, 0 ≤ sqrt x) (p : Option Rat)
    (hp : ∀ k, p = some k → 0 ≤ k) (xs : List (Option Rat)) :
    Ordered (bounds sqrt .sigma p xs).1 (bounds sqrt .sigma p xs).2 := by
  have hk : 0 ≤ p.getD Method.sigma.dflt := getD_nonneg (by decide) hp
  unfold bounds
  dsimp only
  split
  · split
    · exact Ordered.some_some (sub_le_add_mul hk (hs _))
    · exact Ordered.none_left _
  · exact Ordered.none_left _

/-- **the Quantile bounds are ordered**: `Q(q) ≤ Q(1-q)` for every `0 ≤ q ≤ ½` (default 0.01) -/
theorem bounds_quantile_ordered (sqrt : Rat → Rat) (p : Option Rat)
    (hp : ∀ q, p = some q → 0 ≤ q ∧ q ≤ 1 / 2) (xs : List (Option Rat)) :
    Ordered (bounds sqrt .quantile p xs).1 (bounds sqrt .quantile p xs).2 := by
  have hk : 0 ≤ p.getD Method.quantile.dflt ∧ p.getD Method.quantile.dflt ≤ 1 / 2 := by
    cases p with
    | none => simp only [Option.getD_none, Method.dflt]; constructor <;> norm_num
    | some q => exact hp q rfl
  intro l h hl hh
  unfold bounds at hl hh
  simp only [] at hl hh
  exact vquantile_le_mirror xs _ l h hk.1 hk.2 hl hh

/-- **the Median bounds are ordered**: the MAD is non-negative, so `med - k·MAD ≤ med + k·MAD`
for every `k ≥ 0` (default 3) -/
theorem bounds_median_ordered (sqrt : Rat → Rat) (p : Option Rat)
    (hp : ∀ k, p = some k → 0 ≤ k) (xs : List (Option Rat)) :
    Ordered (bounds sqrt .median p xs).1 (bounds sqrt .median p xs).2 := by
  have hk : 0 ≤ p.getD Method.median.dflt := getD_nonneg (by decide) hp
  unfold bounds
  dsimp only
  split
  · next med _ =>
    split
    · next mad hmad =>
      refine Ordered.some_some (sub_le_add_mul hk ?_)
      apply vquantile_nonneg _ (1 / 2) mad (by norm_num) (by norm_num) _ hmad
      intro v hv
      rw [valid_map] at hv
      obtain ⟨w, _, rfl⟩ := List.mem_map.mp hv
      exact absR_nonneg _
    · exact Ordered.none_left _
  · exact Ordered.none_left _

/-- the documented parameter ranges: quantile `q ∈ [0, ½]`, multipliers `k ≥ 0`
(`none` = the default 0.01 / 3 / 3) -/
def ParamOk (m : Method) (p : Option Rat) : Prop :=
  match m with
  | .quantile => ∀ q, p = some q → 0 ≤ q ∧ q ≤ 1 / 2
  | _ => ∀ k, p = some k → 0 ≤ k

/-- **all three methods clip to an interval**: their bounds are ordered -/
theorem bounds_ordered (sqrt : Rat → Rat) (hs : ∀ x, 0 ≤ sqrt x) (m : Method) (p : Option Rat)
    (hp : ParamOk m p) (xs : List (Option Rat)) :
    Ordered (bounds sqrt m p xs).1 (bounds sqrt m p xs).2 := by
  cases m with
  | quantile => exact bounds_quantile_ordered sqrt p hp xs
  | median => exact bounds_median_ordered sqrt p hp xs
  | sigma => exact bounds_sigma_ordered sqrt hs p hp xs

/-- winsorizing an already winsorized column *to the same bounds* changes nothing -/
theorem winsorize_reclip (sqrt : Rat → Rat) (hs : ∀ x, 0 ≤ sqrt x) (m : Method) (p : Option Rat)
    (hp : ParamOk m p) (xs : List (Option Rat)) :
    vclip (bounds sqrt m p xs).1 (bounds sqrt m p xs).2 (winsorize sqrt m p xs)
      = winsorize sqrt m p xs := by
  rw [winsorize_is_vclip]
  exact vclip_idempotent _ _ _ (bounds_ordered sqrt hs m p hp xs)

/-- **winsorizing acts as clipping to one interval** (the from-scratch `max lo (min x hi)`) for
every method and every parameter in the documented range -/
theorem winsorize_is_clip (sqrt : Rat → Rat) (hs : ∀ x, 0 ≤ sqrt x) (m : Method) (p : Option Rat)
    (hp : ParamOk m p) (xs : List (Option Rat)) :
    winsorize sqrt m p xs = Spec.clip (bounds sqrt m p xs).1 (bounds sqrt m p xs).2 xs :=
  vclip_is_clip _ _ xs (bounds_ordered sqrt hs m p hp xs)

/-- **winsorizing is order preserving**, for every method and every parameter in range -/
theorem winsorize_monotone (sqrt : Rat → Rat) (hs : ∀ x, 0 ≤ sqrt x) (m : Method) (p : Option Rat)
    (hp : ParamOk m p) (xs : List (Option Rat)) (i j : Nat) (x y : Rat)
    (hx : xs[i]? = some (some x)) (hy : xs[j]? = some (some y)) (hxy : x ≤ y) :
    ∃ x' y', (winsorize sqrt m p xs)[i]? = some (some x') ∧
      (winsorize sqrt m p xs)[j]? = some (some y') ∧ x' ≤ y' :=
  vclip_monotone _ _ xs i j x y (bounds_ordered sqrt hs m p hp xs) hx hy hxy

/-- **inside the bounds unchanged, outside moved onto the nearer bound** — for the routine itself -/
theorem winsorize_values (sqrt : Rat → Rat) (hs : ∀ x, 0 ≤ sqrt x) (m : Method) (p : Option Rat)
    (hp : ParamOk m p) (xs : List (Option Rat)) (i : Nat) (x : Rat) (hx : xs[i]? = some (some x)) :
    (∀ l h, bounds sqrt m p xs = (some l, some h) →
      (l ≤ x → x ≤ h → (winsorize sqrt m p xs)[i]? = some (some x)) ∧
      (x < l → (winsorize sqrt m p xs)[i]? = some (some l)) ∧
      (h < x → (winsorize sqrt m p xs)[i]? = some (some h))) ∧
    (bounds sqrt m p xs = (none, none) → (winsorize sqrt m p xs)[i]? = some (some x)) := by
  have ho := bounds_ordered sqrt hs m p hp xs
  constructor
  · intro l h hb
    rw [winsorize_is_vclip]
    rw [hb] at ho ⊢
    refine ⟨fun h1 h2 => ?_, fun h1 => ?_, fun h1 => ?_⟩
    · exact vclip_inside_fixed _ _ xs i x hx (fun l' e => by cases e; exact h1)
        (fun h' e => by cases e; exact h2)
    · exact vclip_below_to_lo l _ xs i x hx h1
    · exact vclip_above_to_hi _ h xs i x hx h1 ho
  · intro hb
    rw [winsorize_is_vclip, hb]
    exact vclip_inside_fixed _ _ xs i x hx (fun l' e => by cases e) (fun h' e => by cases e)

/-- the square root used by the driver is non-negative (so `bounds_ordered` applies to it) -/
theorem sqrtApprox_nonneg (x : Rat) : 0 ≤ sqrtApprox x := by
  unfold sqrtApprox
  split
  · exact le_refl _
  · exact div_nonneg (Nat.cast_nonneg _) (mul_nonneg (Nat.cast_nonneg _) (by norm_num))

/-! non-vacuity (the test vector of `test_winsorize`, Quantile 0.1 / Median 1) -/
example : winsorize sqrtApprox .median (some 1)
    [some 1, some 2, some 3, some 4, some 5, some 6, some 7, some 8, some 9, some 10]
    = [some 3, some 3, some 3, some 4, some 5, some 6, some 7, some 8, some 8, some 8] := by
  decide +kernel
example : Ordered (some (3 : Rat)) (some 8) := by
  intro l h hl hh; cases hl; cases hh; decide +kernel

/-- **Spearman = Pearson of the average ranks** (`min_periods` defaulting to `len / 2`) -/
theorem spearman_def (xs ys : List (Option Rat)) (mp : Option Nat) :
    vcorrSpearman xs ys mp = pearson (vrank xs) (vrank ys) (mp.getD (xs.length / 2)) := rfl

/-- the rank of a value is `1 + #smaller + (#equal - 1)/2`, nulls have no rank -/
theorem vrank_getElem? (xs : List (Option Rat)) (i : Nat) :
    (vrank xs)[i]? = xs[i]?.map (Option.map fun v =>
      1 + (((valid xs).filter (· < v)).length : Rat) +
        ((((valid xs).filter (· = v)).length : Rat) - 1) / 2) := by
  unfold vrank
  rw [List.getElem?_map]
  rfl

/-- **ranks are invariant under a strictly increasing transformation** -/
theorem vrank_strictMono (f : Rat → Rat) (hf : StrictMono f) (xs : List (Option Rat)) :
    vrank (xs.map (Option.map f)) = vrank xs := vrank_map f hf xs

/-- **Spearman correlation is invariant under strictly increasing transformations of either
series** -/
theorem spearman_invariant (f g : Rat → Rat) (hf : StrictMono f) (hg : StrictMono g)
    (xs ys : List (Option Rat)) (mp : Option Nat) :
    vcorrSpearman (xs.map (Option.map f)) (ys.map (Option.map g)) mp = vcorrSpearman xs ys mp := by
  unfold vcorrSpearman
  simp only [vrank_map f hf, vrank_map g hg, List.length_map]

/-! non-vacuity: `x ↦ 2x+1` and `x ↦ x³` (two of the harness transforms) are strictly increasing -/
example : StrictMono (fun x : Rat => 2 * x + 1) := by
  intro a b h; show 2 * a + 1 < 2 * b + 1; linarith
example : vrank [some 3, none, some 1, some 3] = [some (5 / 2), none, some 1, some (5 / 2)] := by
  decide +kernel

/-! ## translator tie (`translator/extract.py` → `Tv/Generated.lean`) -/

/-- the two loops of `half_life` in the source tree (comments and whitespace removed) are
textually the loops that `doubling`, `min n (len - 1)` and `bisect` transcribe — any edit of the
loops breaks this obligation before a single input is run -/
theorem halfLife_loops_matches :
    Generated.c20DoublingLoop =
      "n=2usize.pow(i);lets_shift=self.titer().vshift(nasi32,None);letcorr:f64=self.titer().vcorr_pearson(s_shift,min_periods);if(corr<=0.5)||corr.is_nan(){break;}else{last_n=n;}i+=1;" ∧
    Generated.c20BetweenLoops = "n=n.min(self.len()-1);letmutlife:usize;" ∧
    Generated.c20BisectLoop =
      "life=(n+last_n)/2;letcorr:f64=self.titer().vcorr_pearson(self.titer().vshift(lifeasi32,None),min_periods);ifcorr>0.5{last_n=life;}else{n=life;}" :=
  ⟨rfl, rfl, rfl⟩

/-- the default `method_params` of `winsorize` in the source tree are the model's defaults -/
theorem winsorize_defaults_matches :
    Generated.c20WinsorizeDefaults.map (fun p => (p.1 : Rat) / (p.2 : Rat)) =
      [Method.quantile.dflt, Method.median.dflt, Method.sigma.dflt] := by
  decide +kernel

end Tv.C20
