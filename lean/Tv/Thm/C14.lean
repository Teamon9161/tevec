import Tv.Lemmas.C14Cut
import Tv.Lemmas.C14Unique
/-!
# C14 — binning assigns the unique enclosing bin; run de-duplication keeps run ends

Property theorems only (helper lemmas live in `Tv/Lemmas/C14*.lean`).

* `vcut MIN MAX xs bins labels right addBounds` is the model of `MapValidBasic::vcut`
  (tea-map/src/valid_iter.rs) after the `fix:` commit for F15; `vcutPinned` is the pinned code.
  `none` = the call returns `Err` (label count), `Item.outside` = the element is `Err(not in bins)`.
* `Spec.intervals bins addBounds` are the intervals the edges define (with the two unbounded
  outer intervals when `addBounds`); `Interval.contains right I v` is membership in `(lo, hi]`
  resp. `[lo, hi)`.
* `uniqueIdxFirst / uniqueIdxLast / uniqueVals` model `vsorted_unique_idx(Keep::First|Last)` and
  `vsorted_unique` (after the `fix:` commit for F14; `uniqueIdxLastPinned` is the pinned code).
* `Spec.runStarts / runEnds / runValues`: first index / last index / value of every maximal block
  of adjacent equal non-null values.

None of the binning theorems needs `MIN ≤ v ≤ MAX`: the outer bins of the repaired code are
unbounded, so the result does not depend on the type's extremes (`cut_eq_spec`).
-/
namespace Tv.C14
open Tv.C14.Spec

variable {L : Type}

/-! ## binning -/

/-- **label count**: the call fails iff the number of labels is not one fewer than the number of
edges (including the two outer bounds when `addBounds`); nothing else makes the call itself fail -/
theorem cut_err_labels (MIN MAX : Int) (xs : List (Option Int)) (bins : List Int) (labels : List L)
    (right ab : Bool) :
    vcut MIN MAX xs bins labels right ab = none ↔ labels.length + 1 ≠ nEdges bins ab := by
  rw [vcut_eq]
  split
  next h => exact ⟨fun _ => h, fun _ => rfl⟩
  next h => exact ⟨nofun, fun h' => absurd h' h⟩

/-- one outcome per element -/
theorem cut_length (MIN MAX : Int) (xs : List (Option Int)) (bins : List Int) (labels : List L)
    (right ab : Bool) (out : List (Item L)) (h : vcut MIN MAX xs bins labels right ab = some out) :
    out.length = xs.length := by
  rw [(vcut_eq_some MIN MAX xs bins labels right ab out h).2, List.length_map]

/-- every output element is the per-element outcome of the corresponding input element -/
theorem cut_getElem? (MIN MAX : Int) (xs : List (Option Int)) (bins : List Int) (labels : List L)
    (right ab : Bool) (out : List (Item L)) (h : vcut MIN MAX xs bins labels right ab = some out)
    (i : Nat) : out[i]? = (xs[i]?).map (itemOf bins labels ab right) := by
  rw [(vcut_eq_some MIN MAX xs bins labels right ab out h).2, List.getElem?_map]

/-- an outcome other than the null label stems from a non-null value -/
theorem cut_value_of (MIN MAX : Int) (xs : List (Option Int)) (bins : List Int) (labels : List L)
    (right ab : Bool) (out : List (Item L)) (h : vcut MIN MAX xs bins labels right ab = some out)
    (i : Nat) (it : Item L) (ho : out[i]? = some it) (hn : it ≠ .null) :
    ∃ v, xs[i]? = some (some v) ∧ itemOf bins labels ab right (some v) = it := by
  rw [cut_getElem? MIN MAX xs bins labels right ab out h i] at ho
  obtain ⟨_ | v, hx, hv⟩ := Option.map_eq_some_iff.mp ho
  · exact absurd hv.symm hn
  · exact ⟨v, hx, hv⟩

/-- **position independent**: equal elements get equal outcomes wherever they stand, and the outcome
of one element does not depend on the other elements of the series (the same element in another
series with the same bins and labels gets the same outcome) -/
theorem cut_pointwise (MIN MAX : Int) (xs ys : List (Option Int)) (bins : List Int)
    (labels : List L) (right ab : Bool) (out out' : List (Item L))
    (h : vcut MIN MAX xs bins labels right ab = some out)
    (h' : vcut MIN MAX ys bins labels right ab = some out')
    (i j : Nat) (x : Option Int) (hx : xs[i]? = some x) (hy : ys[j]? = some x) :
    out[i]? = out'[j]? := by
  rw [cut_getElem? MIN MAX xs bins labels right ab out h i,
    cut_getElem? MIN MAX ys bins labels right ab out' h' j, hx, hy]

/-- **nulls get the null label**, and only nulls do -/
theorem cut_null (MIN MAX : Int) (xs : List (Option Int)) (bins : List Int) (labels : List L)
    (right ab : Bool) (out : List (Item L)) (h : vcut MIN MAX xs bins labels right ab = some out)
    (i : Nat) : out[i]? = some .null ↔ xs[i]? = some none := by
  rw [cut_getElem? MIN MAX xs bins labels right ab out h i]
  constructor
  · intro ho
    obtain ⟨_ | v, hx, hv⟩ := Option.map_eq_some_iff.mp ho
    · exact hx
    · simp only [itemOf] at hv
      split at hv <;> exact nomatch hv
  · intro hx
    rw [hx]
    rfl

/-- **at most one bin**: for ascending edges the intervals are pairwise disjoint -/
theorem cut_unique (bins : List Int) (hasc : Ascending bins) (ab right : Bool) (v : Int)
    (i j : Nat) (I J : Interval)
    (hi : (intervals bins ab)[i]? = some I) (hj : (intervals bins ab)[j]? = some J)
    (hI : I.contains right v = true) (hJ : J.contains right v = true) : i = j :=
  contains_unique bins hasc ab right v i j I J hi hj hI hJ

/-- **the label of the enclosing bin**: if interval `k` contains the value, the element gets
`labels[k]` -/
theorem cut_label_of_contains (MIN MAX : Int) (xs : List (Option Int)) (bins : List Int)
    (hasc : Ascending bins) (labels : List L) (right ab : Bool) (out : List (Item L))
    (h : vcut MIN MAX xs bins labels right ab = some out) (i : Nat) (v : Int)
    (hx : xs[i]? = some (some v)) (k : Nat) (I : Interval)
    (hk : (intervals bins ab)[k]? = some I) (hin : I.contains right v = true) :
    ∃ l, labels[k]? = some l ∧ out[i]? = some (.label l) := by
  rw [cut_getElem? MIN MAX xs bins labels right ab out h i, hx]
  rcases itemOf_some bins labels ab right v (vcut_eq_some MIN MAX xs bins labels right ab out h).1 with
    ⟨k', I', l, hI', hIv', hl, he⟩ | ⟨hall, _⟩
  · -- the edges ascending, the interval that gave the label is interval `k`
    cases contains_unique bins hasc ab right v k' k I' I hI' hk hIv' hin
    exact ⟨l, hl, congrArg some he⟩
  · exact nomatch (hall k I hk).symm.trans hin

/-- **never a wrong label**: a label is only ever produced for an interval that contains the value -/
theorem cut_label_sound (MIN MAX : Int) (xs : List (Option Int)) (bins : List Int)
    (labels : List L) (right ab : Bool) (out : List (Item L))
    (h : vcut MIN MAX xs bins labels right ab = some out) (i : Nat) (l : L)
    (hl : out[i]? = some (.label l)) :
    ∃ (v : Int) (k : Nat) (I : Interval), xs[i]? = some (some v) ∧ (intervals bins ab)[k]? = some I ∧
      I.contains right v = true ∧ labels[k]? = some l := by
  obtain ⟨v, hx, hv⟩ := cut_value_of MIN MAX xs bins labels right ab out h i _ hl nofun
  rcases itemOf_some bins labels ab right v (vcut_eq_some MIN MAX xs bins labels right ab out h).1 with
    ⟨k, I, l', hI, hIv, hl', he⟩ | ⟨_, he⟩
  · cases he.symm.trans hv
    exact ⟨v, k, I, hx, hI, hIv, hl'⟩
  · exact nomatch he.symm.trans hv

/-- **outside all intervals ⇒ error, and only then**: the element is `Err(not in bins)` iff it is
non-null and no interval contains it -/
theorem cut_err_outside (MIN MAX : Int) (xs : List (Option Int)) (bins : List Int)
    (labels : List L) (right ab : Bool) (out : List (Item L))
    (h : vcut MIN MAX xs bins labels right ab = some out) (i : Nat) :
    out[i]? = some .outside ↔
      ∃ v, xs[i]? = some (some v) ∧
        ∀ (k : Nat) (I : Interval), (intervals bins ab)[k]? = some I → I.contains right v = false := by
  have hlen := (vcut_eq_some MIN MAX xs bins labels right ab out h).1
  constructor
  · intro ho
    obtain ⟨v, hx, hv⟩ := cut_value_of MIN MAX xs bins labels right ab out h i _ ho nofun
    rcases itemOf_some bins labels ab right v hlen with ⟨_, _, _, _, _, _, he⟩ | ⟨hall, _⟩
    · exact nomatch he.symm.trans hv
    · exact ⟨v, hx, hall⟩
  · rintro ⟨v, hx, hall⟩
    rw [cut_getElem? MIN MAX xs bins labels right ab out h i, hx]
    rcases itemOf_some bins labels ab right v hlen with ⟨k, I, _, hI, hIv, _, _⟩ | ⟨_, he⟩
    · exact nomatch (hall k I hI).symm.trans hIv
    · exact congrArg some he

/-- **open outer bounds: every non-null value receives a label** (no hypothesis on the edges, and
in particular for `v = MIN` and `v = MAX`; false for the pinned code, see `cut_pinned_wrong`) -/
theorem cut_total_open (MIN MAX : Int) (xs : List (Option Int)) (bins : List Int)
    (labels : List L) (right : Bool) (out : List (Item L))
    (h : vcut MIN MAX xs bins labels right true = some out) (i : Nat) (v : Int)
    (hx : xs[i]? = some (some v)) : ∃ l, out[i]? = some (.label l) := by
  obtain ⟨k, I, hk, hin⟩ := open_exists_hit bins right v
  rw [cut_getElem? MIN MAX xs bins labels right true out h i, hx]
  rcases itemOf_some bins labels true right v (vcut_eq_some MIN MAX xs bins labels right true out h).1 with
    ⟨_, _, l, _, _, _, he⟩ | ⟨hall, _⟩
  · exact ⟨l, congrArg some he⟩
  · exact nomatch (hall k I hk).symm.trans hin

/-- **model = from-scratch specification** for ascending edges, all inputs, both flags, both bound
modes (the specification counts the containing intervals and reports the label of the only one) -/
theorem cut_eq_spec (MIN MAX : Int) (xs : List (Option Int)) (bins : List Int) (hasc : Ascending bins)
    (labels : List L) (right ab : Bool) :
    (vcut MIN MAX xs bins labels right ab).map (·.map Item.toOutcome) = Spec.cut xs bins labels right ab := by
  rw [vcut_eq]
  unfold Spec.cut
  split
  · rfl
  next hc =>
    rw [Option.map_some, List.map_map]
    exact congrArg some (List.map_congr_left fun x _ =>
      itemOf_eq_cutOne bins hasc labels ab right (Decidable.not_not.mp hc) x)

/-- **F15 (pinned tree)**: with open outer bounds the pinned code rejects the type's minimum when
right-closed and the type's maximum when left-closed (whatever `MIN`, `MAX` are), while the
repaired code labels them -/
theorem cut_pinned_wrong (MIN MAX : Int) :
    vcutPinned MIN MAX [some MIN] [] [7] true true = some [Item.outside] ∧
    vcutPinned MIN MAX [some MAX] [] [7] false true = some [Item.outside] ∧
    vcut MIN MAX [some MIN] [] [7] true true = some [Item.label 7] ∧
    vcut MIN MAX [some MAX] [] [7] false true = some [Item.label 7] := by
  refine ⟨?_, ?_, ?_, ?_⟩ <;>
    simp [vcutPinned, vcut, edgesOf, cutItem, windows, firstMatch, binTestPinned, binTest]

/-- non-vacuity: a call with ascending edges, a value on an edge, both extremes of `i32` and a null -/
example : vcut (-2147483648) 2147483647 [some 1, some 3, some (-2147483648), none, some 2147483647]
    [1, 5] ["a", "b", "c"] true true
    = some [.label "a", .label "b", .label "a", .null, .label "c"] := rfl

example : Ascending [1, 5] := by unfold Ascending; decide

/-- non-vacuity: closed bounds, a value outside -/
example : vcut (-2147483648) 2147483647 [some 1, some 3, some 9] [1, 5] ["b"] false false
    = some [.label "b", .label "b", .outside] := rfl

/-! ## run de-duplication -/

/-- **Keep::Last returns exactly the last index of every run** — for *every* input (nulls anywhere) -/
theorem unique_last (xs : List (Option Int)) : uniqueIdxLast xs = runEnds xs := by
  cases xs with
  | nil => rfl
  | cons x t =>
    refine (run_lastStep t x 0).trans ?_
    simp only [Nat.zero_add, List.map_id']

/-- **Keep::First returns exactly the first index of every run** whenever no block of nulls
separates two equal values (in particular on sorted input with null blocks at the ends,
`noNullGap_of_nullsAtEnds`) -/
theorem unique_first (xs : List (Option Int)) (h : NoNullGap xs) : uniqueIdxFirst xs = runStarts xs := by
  rw [uniqueIdxFirst_eq_filter]
  unfold runStarts
  refine List.filter_congr fun j _ => ?_
  rcases hx : xs[j]? with _ | _ | a
  · rfl
  · rfl
  · exact decide_eq_decide.mpr (first_pointwise xs h j a hx)

/-- `vsorted_unique` returns the values at the indices `vsorted_unique_idx(Keep::First)` returns (every input) -/
theorem unique_vals_idx (xs : List (Option Int)) :
    uniqueVals xs = (uniqueIdxFirst xs).filterMap (xs[·]?) := by
  rw [uniqueIdxFirst_eq_filter]
  exact run_valStep xs none 0

/-- **one representative per run** -/
theorem unique_vals (xs : List (Option Int)) (h : NoNullGap xs) : uniqueVals xs = runValues xs := by
  rw [unique_vals_idx, unique_first xs h]; rfl

/-- **never an index of a null** (Keep::First, every input) -/
theorem unique_first_no_null (xs : List (Option Int)) (i : Nat) (hi : i ∈ uniqueIdxFirst xs) :
    ∃ a, xs[i]? = some (some a) := by
  rw [uniqueIdxFirst_eq_filter, List.mem_filter] at hi
  rcases hx : xs[i]? with _ | _ | a
  · simp [hx] at hi
  · simp [hx] at hi
  · exact ⟨a, rfl⟩

/-- **never an index of a null** (Keep::Last, every input; false for the pinned code,
`unique_last_pinned_wrong`) -/
theorem unique_last_no_null (xs : List (Option Int)) (i : Nat) (hi : i ∈ uniqueIdxLast xs) :
    ∃ a, xs[i]? = some (some a) := by
  rw [unique_last] at hi
  unfold runEnds at hi
  rw [List.mem_filter] at hi
  rcases hx : xs[i]? with _ | _ | a
  · simp [hx] at hi
  · simp [hx] at hi
  · exact ⟨a, rfl⟩

/-- `vsorted_unique` never returns a null (every input) -/
theorem unique_vals_no_null (xs : List (Option Int)) (v : Option Int) (hv : v ∈ uniqueVals xs) :
    v ≠ none := by
  rw [unique_vals_idx, List.mem_filterMap] at hv
  obtain ⟨i, hi, hxi⟩ := hv
  obtain ⟨a, ha⟩ := unique_first_no_null xs i hi
  simp only [ha, Option.some.injEq] at hxi
  subst hxi; simp

/-- **in order**: the returned indices are strictly increasing (both modes, every input) -/
theorem unique_idx_increasing (xs : List (Option Int)) :
    (uniqueIdxFirst xs).Pairwise (· < ·) ∧ (uniqueIdxLast xs).Pairwise (· < ·) := by
  constructor
  · rw [uniqueIdxFirst_eq_filter]
    exact List.Pairwise.sublist List.filter_sublist List.pairwise_lt_range
  · rw [unique_last]
    exact List.Pairwise.sublist List.filter_sublist List.pairwise_lt_range

/-- **sorted input, null blocks at the head and the tail** (the property's quantifier): Keep::First
gives the run starts, Keep::Last the run ends, `vsorted_unique` one value per run, and these values
are pairwise distinct -/
theorem unique_sorted (h : Nat) (vs : List Int) (t : Nat)
    (hs : vs.Pairwise (· ≤ ·) ∨ vs.Pairwise (· ≥ ·)) :
    let xs := List.replicate h none ++ (vs.map some ++ List.replicate t none)
    uniqueIdxFirst xs = runStarts xs ∧ uniqueIdxLast xs = runEnds xs ∧
      uniqueVals xs = runValues xs ∧ (uniqueVals xs).Nodup := by
  intro xs
  have hng : NoNullGap xs := noNullGap_of_nullsAtEnds h vs t
  refine ⟨unique_first xs hng, unique_last xs, unique_vals xs hng, ?_⟩
  rw [unique_vals xs hng]
  exact runValues_nodup xs (equalAdjacent_of_sorted h vs t hs)

/-- whenever equal values are adjacent (the literal hypothesis of the property), the values returned
by `vsorted_unique` are pairwise distinct and Keep::First / values agree with the run structure -/
theorem unique_equalAdjacent (xs : List (Option Int)) (h : EqualAdjacent xs) :
    uniqueIdxFirst xs = runStarts xs ∧ uniqueVals xs = runValues xs ∧ (uniqueVals xs).Nodup := by
  have hng := noNullGap_of_equalAdjacent xs h
  refine ⟨unique_first xs hng, unique_vals xs hng, ?_⟩
  rw [unique_vals xs hng]
  exact runValues_nodup xs h

/-- **F14 (pinned tree)**: with a leading null the pinned Keep::Last emits the index of the null -/
theorem unique_last_pinned_wrong :
    uniqueIdxLastPinned [none, some 4, some 4] = [0, 2] ∧
    ([none, some 4, some 4] : List (Option Int))[0]? = some none ∧
    uniqueIdxLast [none, some 4, some 4] = [2] := ⟨rfl, rfl, rfl⟩

/-- non-vacuity: a sorted input with runs and null blocks at both ends satisfies `NoNullGap` -/
example : NoNullGap [none, some 4, some 4, some 2, none, none] :=
  noNullGap_of_nullsAtEnds 1 [4, 4, 2] 2

example : ([4, 4, 2] : List Int).Pairwise (· ≥ ·) := by decide

example : uniqueIdxFirst [none, some 4, some 4, some 2, none, none] = [1, 3] ∧
    uniqueIdxLast [none, some 4, some 4, some 2, none, none] = [2, 3] ∧
    uniqueVals [none, some 4, some 4, some 2, none, none] = [some 4, some 2] := ⟨rfl, rfl, rfl⟩

end Tv.C14
