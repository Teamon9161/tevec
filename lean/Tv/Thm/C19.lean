import Tv.Lemmas.C19
import Mathlib.Tactic.NormNum
/-!
# C19 — generators and collectors build exactly the requested sequence

* the model (`Tv/Model/C19Gen.lean`) transcribes `Linspace`, `linspace`, the repaired `range`,
  `Vec1Create`, the collector family with the per-backend overrides and `write_trust_iter`;
* the specification (`Tv/Spec/C19Gen.lean`) is the arithmetic progression cut after
  `countBefore = max 0 ⌈(b-a)/step⌉` terms (exact rational quotient), the identity on item
  sequences, "first error wins" and the final buffer contents.

Element types: `Int` stands for i32 / i64 / usize (Rust `/` is `Int.tdiv`, `ceil` the identity),
`Rat` for f64 on exactly representable data. Integer overflow is out of scope (DESIGN 5.2); the
only size hypotheses are that the element count fits `usize` resp. the allocation fits `isize`.
-/
namespace Tv.C19
open Tv.C19.Spec

/-- `isize::MAX` -/
abbrev isizeMax : Nat := 9223372036854775807

section lin
variable {α : Type} [Add α] [Mul α] [NatCast α]

/-- a `Linspace` yields exactly `start + step·i` for `i = index, …, len-1`, in this order -/
theorem linspace_iter_items (s : Linspace α) :
    s.items = (List.range (s.len - s.index)).map fun k => s.start + s.step * ((s.index + k : Nat) : α) :=
  items_eq s

/-- calling `next` more often than `len - index` times changes nothing: the iterator is fused -/
theorem drain_fuel_irrelevant (s : Linspace α) (fuel : Nat) (h : s.len - s.index ≤ fuel) :
    s.drain fuel = s.items := by
  rw [drain_eq s fuel h, items_eq]

/-- `next` pops the first remaining item (and returns `None` exactly when nothing remains) -/
theorem next_spec (s : Linspace α) :
    s.next.1 = s.items.head? ∧ s.next.2.items = s.items.tail := by
  by_cases h : s.index < s.len
  · rw [next_of_lt s h, items_cons s h]; simp
  · rw [next_of_ge s (by omega), items_of_ge s (by omega)]; simp

/-- `next_back` pops the last remaining item -/
theorem nextBack_spec (s : Linspace α) :
    s.nextBack.1 = s.items.getLast? ∧ s.nextBack.2.items = s.items.dropLast := by
  by_cases h : s.index < s.len
  · rw [nextBack_of_lt s h, items_snoc s h]; simp
  · rw [nextBack_of_ge s (by omega), items_of_ge s (by omega)]; simp

/-- the size hint is exact (this is what the `unsafe impl TrustedLen for Linspace` promises) -/
theorem sizeHint_exact (s : Linspace α) :
    s.sizeHint = (s.items.length, some s.items.length) := by
  simp [Linspace.sizeHint, items_length]

end lin

/-- **range, floats** (exact arithmetic on representable data): for a non-zero step the range is
the arithmetic progression `a, a+step, …` cut after exactly `countBefore = max 0 ⌈(b-a)/step⌉`
terms, and its size hint is that count. -/
theorem range_exact_rat (a b step : Rat) (hs : step ≠ 0) (hc : countBefore a b step < usizeMod) :
    ∃ s, range ratOps a b step = .ok s ∧ s.items = progression a step (countBefore a b step) ∧
      s.sizeHint = (countBefore a b step, some (countBefore a b step)) :=
  ⟨_, range_rat a b step hs hc, items_eq_progression a step _, rfl⟩

/-- **range, integers** (i32 / i64 / usize; truncating division, identity `ceil`): same statement,
the count being the exact rational ceiling — so no element is dropped when the span is not a
multiple of the step, and a span pointing against the step gives the empty range. -/
theorem range_exact_int (a b step : Int) (hs : step ≠ 0)
    (hc : countBefore (a : Rat) (b : Rat) (step : Rat) < usizeMod) :
    ∃ s, range intOps a b step = .ok s ∧
      s.items = progression a step (countBefore (a : Rat) (b : Rat) (step : Rat)) ∧
      s.sizeHint = (countBefore (a : Rat) b step, some (countBefore (a : Rat) b step)) :=
  ⟨_, range_int a b step hs hc, items_eq_progression a step _, rfl⟩

theorem mem_progression_iff {α : Type} [Add α] [Mul α] [NatCast α] (a step : α) (n : Nat) (P : α → Prop)
    (key : ∀ k : Nat, k < n ↔ P (a + step * (k : α))) (x : α) :
    x ∈ progression a step n ↔ ∃ k : Nat, x = a + step * (k : α) ∧ P x := by
  unfold progression
  simp only [List.mem_map, List.mem_range]
  constructor
  · rintro ⟨k, hk, rfl⟩
    exact ⟨k, rfl, (key k).mp hk⟩
  · rintro ⟨k, rfl, hb⟩
    exact ⟨k, (key k).mpr hb, rfl⟩

/-- **none missing, none beyond (floats)**: `x` is in the range iff it is a term of the
progression lying strictly before `b` in the direction of the step -/
theorem range_mem_rat (a b step : Rat) (hs : step ≠ 0) (x : Rat) :
    x ∈ rangeRat a b step ↔ ∃ k : Nat, x = a + step * (k : Rat) ∧ Before step x b :=
  mem_progression_iff a step _ (Before step · b) (countBefore_spec a b step hs) x

/-- **none missing, none beyond (integers)** -/
theorem range_mem_int (a b step : Int) (hs : step ≠ 0) (x : Int) :
    x ∈ rangeInt a b step ↔ ∃ k : Nat, x = a + step * (k : Int) ∧ Before step x b := by
  refine mem_progression_iff a step _ (Before step · b) (fun k => ?_) x
  rw [countBefore_spec (a : Rat) b step (Int.cast_ne_zero.2 hs) k, ← before_cast, Int.cast_add, Int.cast_mul,
    Int.cast_natCast]

theorem capacityOverflow_of_le {n es : Nat} (h : n * es ≤ isizeMax) : capacityOverflow n es = false :=
  decide_eq_false (Nat.not_lt.2 h)

/-- **plain collection** is the identity on the item sequence, for every container and whatever
the size hint says -/
theorem collect_id (c : Cont) (it : Iter α) : collectFromIter c it = it.items := rfl

/-- **trusted collection** of an iterator whose hint is its true length is the identity
(given that the allocation fits) -/
theorem collect_trusted_id (c : Cont) (es : Nat) (l : List α) (h : l.length * es ≤ isizeMax) :
    collectFromTrusted c es (Iter.exact l) = .ok l := by
  cases c <;> simp [collectFromTrusted, collectTrustedToVec_exact es l (capacityOverflow_of_le h), Outcome.map]

/-- the contract of the trusted collectors is necessary: a wrong hint is undefined behaviour
(uninitialised tail exposed, or a write past the allocation) -/
theorem collect_trusted_wrong_hint (c : Cont) (es : Nat) (l : List α) (n : Nat) (hn : n ≠ l.length)
    (h : n * es ≤ isizeMax) : collectFromTrusted c es ⟨l, some n⟩ = .ub := by
  cases c <;>
    simp [collectFromTrusted, collectTrustedToVec_wrong_hint es l n hn (capacityOverflow_of_le h), Outcome.map]

/-- **collection with an explicit length**: the identity when the stated length is the true one,
whatever hint the source itself reports -/
theorem collect_with_len_id (c : Cont) (es : Nat) (it : Iter α) (h : it.items.length * es ≤ isizeMax) :
    collectWithLen c es it it.items.length = .ok it.items :=
  collect_trusted_id c es it.items h

/-- **optional → null-encoded**: values stay in place, `None` becomes the null element -/
theorem collect_opt_eq (c : Cont) (none' : α) (it : Iter (Option α)) :
    collectFromOptIter c none' it = optEncode none' it.items := by
  simp only [collectFromOptIter, collectFromIter, stdCollect, Iter.map, optEncode]
  apply List.map_congr_left
  intro x _
  cases x <;> rfl

/-- order and content: position `i` of the encoded result is item `i` -/
theorem collect_opt_get (c : Cont) (none' : α) (it : Iter (Option α)) (i : Nat) :
    (collectFromOptIter c none' it)[i]? = (it.items[i]?).map fun o => o.getD none' := by
  simp [collectFromOptIter, collectFromIter, stdCollect, Iter.map]

/-- `empty` is empty for every container -/
theorem empty_eq (c : Cont) : (empty c : List α) = [] := by
  cases c <;> rfl

/-- **full** repeats its value `len` times -/
theorem full_eq (c : Cont) (es len : Nat) (v : α) (h : len * es ≤ isizeMax) :
    full c es len v = .ok (List.replicate len v) := by
  have e : repeatN v len = Iter.exact (List.replicate len v) := by simp [repeatN, Iter.exact]
  unfold full
  rw [e]
  exact collect_trusted_id c es _ (by simpa using h)

theorem lt_usizeMod_of_cap {n es : Nat} (hes : 0 < es) (hcap : n * es ≤ isizeMax) : n < usizeMod :=
  Nat.lt_of_le_of_lt (Nat.le_trans (Nat.le_mul_of_pos_right _ hes) hcap) (by decide)

theorem collect_eq_progression {α : Type} [Add α] [Mul α] [NatCast α] (c : Cont) (es : Nat) (a step : α) (n : Nat)
    (hcap : n * es ≤ isizeMax) :
    collectFromTrusted c es ((⟨a, step, 0, n⟩ : Linspace α).iter.map id) = .ok (progression a step n) := by
  have hl : (progression a step n).length = n := by simp only [progression, List.length_map, List.length_range]
  have e : (⟨a, step, 0, n⟩ : Linspace α).iter.map id = Iter.exact (progression a step n) := by
    simp only [Linspace.iter, Iter.map, Iter.exact, items_eq_progression, List.map_id, Linspace.sizeHint, Nat.sub_zero, hl]
  rw [e]
  exact collect_trusted_id c es _ (by rw [hl]; exact hcap)

/-- **Vec1Create::range, floats**, for every output container -/
theorem createRange_rat (c : Cont) (es : Nat) (a b step : Rat) (hs : step ≠ 0) (hes : 0 < es)
    (hcap : countBefore a b step * es ≤ isizeMax) :
    createRange ratOps c es a b step = .ok (rangeRat a b step) := by
  rw [createRange, range_rat a b step hs (lt_usizeMod_of_cap hes hcap)]
  exact collect_eq_progression c es a step _ hcap

/-- **Vec1Create::range, integers**, for every output container -/
theorem createRange_int (c : Cont) (es : Nat) (a b step : Int) (hs : step ≠ 0) (hes : 0 < es)
    (hcap : countBefore (a : Rat) b step * es ≤ isizeMax) :
    createRange intOps c es a b step = .ok (rangeInt a b step) := by
  rw [createRange, range_int a b step hs (lt_usizeMod_of_cap hes hcap)]
  exact collect_eq_progression c es a step _ hcap

section linsp
variable {α : Type} [Add α] [Sub α] [Mul α] [NatCast α] [OfNat α 0]

/-- **linspace has exactly `n` elements**, and reports that as its exact size -/
theorem linspace_len (ops : NumOps α) (a b : α) (n : Nat) :
    (linspace ops a b n).items.length = n ∧ (linspace ops a b n).sizeHint = (n, some n) := by
  simp [items_length, linspace, Linspace.sizeHint]

/-- **constant step**: element `i` is `a + step·i` -/
theorem linspace_get (ops : NumOps α) (a b : α) (n i : Nat) (h : i < n) :
    (linspace ops a b n).items[i]? = some (a + (linspace ops a b n).step * (i : α)) := by
  rw [items_eq]
  simp [linspace, Linspace.at, h]

theorem createLinspace_eq [OfNat α 1] [LT α] [DecidableLT α] [DecidableEq α] (ops : NumOps α) (c : Cont)
    (es : Nat) (a b : α) (n : Nat) (hcap : n * es ≤ isizeMax) :
    createLinspace ops c es a b n = .ok (progression a (linspace ops a b n).step n) :=
  collect_eq_progression c es a _ n hcap

end linsp

/-- linspace starts at `a` (floats) -/
theorem linspace_first_rat (a b : Rat) (n : Nat) (h : 0 < n) :
    (linspace ratOps a b n).items.head? = some a := by
  rw [List.head?_eq_getElem?, linspace_get ratOps a b n 0 h]; simp

/-- linspace starts at `a` (integers) -/
theorem linspace_first_int (a b : Int) (n : Nat) (h : 0 < n) :
    (linspace intOps a b n).items.head? = some a := by
  rw [List.head?_eq_getElem?, linspace_get intOps a b n 0 h]; simp

theorem linspace_step_rat (a b : Rat) (n : Nat) (h : 2 ≤ n) :
    (linspace ratOps a b n).step = (b - a) / ((n : Rat) - 1) := by
  rw [linspace_step_of_lt ratOps a b h, ← Nat.cast_pred (by omega)]
  rfl

/-- **for floats linspace ends at `b`** (in exact arithmetic; the rounding of f64 is not modelled) -/
theorem linspace_last (a b : Rat) (n : Nat) (h : 2 ≤ n) :
    (linspace ratOps a b n).items.getLast? = some b := by
  have hlen := (linspace_len ratOps a b n).1
  rw [List.getLast?_eq_getElem?, hlen, linspace_get ratOps a b n (n - 1) (by omega),
    linspace_step_rat a b n h]
  have hne : (n : Rat) - 1 ≠ 0 := sub_ne_zero.2 (by exact_mod_cast (show n ≠ 1 by omega))
  rw [Nat.cast_pred (by omega), div_mul_cancel₀ _ hne, add_sub_cancel]

/-- **closed form for floats**: element `i` of `linspace(a, b, n)`, `n ≥ 2`, is
`a + (b-a)·i/(n-1)` — the `i`-th of `n` equally spaced points on `[a, b]` -/
theorem linspace_get_rat (a b : Rat) (n i : Nat) (h : 2 ≤ n) (hi : i < n) :
    (linspace ratOps a b n).items[i]? = some (a + (b - a) * (i : Rat) / ((n : Rat) - 1)) := by
  rw [linspace_get ratOps a b n i hi, linspace_step_rat a b n h]
  congr 1
  ring

/-- **a single point is `a`**: `linspace(a, b, 1) = [a]` (step zero) -/
theorem linspace_one_rat (a b : Rat) : (linspace ratOps a b 1).items = [a] := by
  rw [items_eq]
  simp [linspace, Linspace.at]

/-- `n = 0` is empty -/
theorem linspace_zero_rat (a b : Rat) : (linspace ratOps a b 0).items = [] :=
  List.eq_nil_of_length_eq_zero (linspace_len ratOps a b 0).1

/-- **monotone**: for `a ≤ b` the points never decrease -/
theorem linspace_mono_rat (a b : Rat) (n i j : Nat) (hab : a ≤ b) (hij : i ≤ j) (hj : j < n)
    (x y : Rat) (hx : (linspace ratOps a b n).items[i]? = some x)
    (hy : (linspace ratOps a b n).items[j]? = some y) : x ≤ y := by
  rw [linspace_get ratOps a b n i (by omega)] at hx
  rw [linspace_get ratOps a b n j hj] at hy
  cases hx; cases hy
  have hs : 0 ≤ (linspace ratOps a b n).step := by
    by_cases h2 : 2 ≤ n
    · rw [linspace_step_rat a b n h2]
      exact div_nonneg (sub_nonneg.2 hab) (sub_nonneg.2 (by exact_mod_cast (show 1 ≤ n by omega)))
    · exact (linspace_step_of_le ratOps a b (by omega)).ge
  exact (add_le_add_iff_left a).2 (mul_le_mul_of_nonneg_left (Nat.cast_le.2 hij) hs)

/-- **inside `[a, b]`**: for `a ≤ b` no point leaves the closed interval -/
theorem linspace_within_rat (a b : Rat) (n i : Nat) (hab : a ≤ b) (hi : i < n)
    (x : Rat) (hx : (linspace ratOps a b n).items[i]? = some x) : a ≤ x ∧ x ≤ b := by
  refine ⟨linspace_mono_rat a b n 0 i hab (Nat.zero_le i) hi a x ?_ hx, ?_⟩
  · rw [← List.head?_eq_getElem?]
    exact linspace_first_rat a b n (by omega)
  · by_cases h2 : 2 ≤ n
    · have hl := linspace_last a b n h2
      rw [List.getLast?_eq_getElem?, (linspace_len ratOps a b n).1] at hl
      exact linspace_mono_rat a b n i (n - 1) hab (by omega) (by omega) x b hx hl
    · obtain rfl : n = 1 := by omega
      obtain rfl : i = 0 := by omega
      obtain rfl : a = x := by simpa [linspace_one_rat] using hx
      exact hab

/-- **integers**: the step is the truncated quotient `(b-a) / (n-1)` (Rust `/`), so element `i`
is `a + ((b-a) tdiv (n-1))·i` -/
theorem linspace_get_int (a b : Int) (n i : Nat) (h : 2 ≤ n) (hi : i < n) :
    (linspace intOps a b n).items[i]? = some (a + (b - a).tdiv ((n - 1 : Nat) : Int) * (i : Int)) := by
  rw [linspace_get intOps a b n i hi, linspace_step_of_lt intOps a b h]
  rfl

/-- the last one is `b` when `n-1` divides `b-a` -/
theorem linspace_last_int (a b : Int) (n : Nat) (h : 2 ≤ n) (hd : ((n - 1 : Nat) : Int) ∣ b - a) :
    (linspace intOps a b n).items.getLast? = some b := by
  have hlen := (linspace_len intOps a b n).1
  rw [List.getLast?_eq_getElem?, hlen, linspace_get_int a b n (n - 1) h (by omega)]
  rw [Int.tdiv_mul_cancel hd, Int.add_comm, Int.sub_add_cancel]

/-- non-vacuity: the second of five points on `[1, 2]`, and an integer grid that ends on `b` -/
example : (linspace ratOps 1 2 5).items[1]? = some (5 / 4) := by
  rw [linspace_get_rat 1 2 5 1 (by omega) (by omega)]; norm_num

example : (linspace intOps 3 11 5).items.getLast? = some 11 :=
  linspace_last_int 3 11 5 (by omega) (by decide)

/-- **Vec1Create::linspace, floats** equals the from-scratch definition, for every container -/
theorem createLinspace_rat (c : Cont) (es : Nat) (a b : Rat) (n : Nat) (hcap : n * es ≤ isizeMax) :
    createLinspace ratOps c es a b n = .ok (linspaceRat a b n) := by
  rw [createLinspace_eq ratOps c es a b n hcap, linspaceRat]
  split
  · rw [linspace_step_of_le ratOps a b ‹_›]
  · rw [linspace_step_rat a b n (by omega)]

/-- **Vec1Create::linspace, integers** (i32 / i64 / usize): `n` elements from `a` with the
constant step `(b-a)/(n-1)` rounded toward zero -/
theorem createLinspace_int (c : Cont) (es : Nat) (a b : Int) (n : Nat) (hcap : n * es ≤ isizeMax) :
    createLinspace intOps c es a b n = .ok (linspaceInt a b n) := by
  rw [createLinspace_eq intOps c es a b n hcap, linspaceInt]
  split
  · rw [linspace_step_of_le intOps a b ‹_›]
  · rw [linspace_step_of_lt intOps a b (by omega), show intOps.div = Int.tdiv from rfl,
      tdiv_eq_truncRat (b - a) ((n - 1 : Nat) : Int) (by omega), Int.cast_natCast, Nat.cast_pred (by omega)]

/-- **fallible collection (plain)**: the result is the first error if there is one, otherwise
all values in order; the source is pulled up to and including the first error and no further -/
theorem try_collect_spec (c : Cont) (it : Iter (Except ε α)) :
    (tryCollectFromIter c it).result = tryCollect it.items ∧
      (tryCollectFromIter c it).consumed = consumed it.items := by
  unfold tryCollectFromIter tryCollect
  rw [tryLoop_eq]
  constructor
  · cases firstErr it.items <;> simp
  · simp

/-- **fallible collection (trusted)** agrees with the plain one when the hint is the true length -/
theorem try_collect_trusted_spec (c : Cont) (es : Nat) (l : List (Except ε α))
    (hcap : l.length * es ≤ isizeMax) :
    tryCollectFromTrusted c es (Iter.exact l) = .ok ⟨tryCollect l, consumed l⟩ := by
  unfold tryCollectFromTrusted Iter.exact tryCollect
  simp only [capacityOverflow_of_le hcap]
  rw [tryRawWrite_eq _ _ _ _ (by simp), tryLoop_eq]
  cases hfe : firstErr l with
  | some e => simp
  | none => simp [okValues_length_of_noErr l hfe]

/-- **first error wins**: the result is `Err(e)` iff the items are some values followed by
`Err(e)` (followed by anything — later errors are irrelevant), and `Ok(vs)` iff every item is
a value and `vs` are those values in order. -/
theorem try_collect_first_err (l : List (Except ε α)) :
    (∀ e, tryCollect l = .error e ↔
      ∃ (vs : List α) (post : List (Except ε α)), l = vs.map .ok ++ .error e :: post) ∧
    (∀ vs, tryCollect l = .ok vs ↔ l = vs.map .ok) := by
  unfold tryCollect
  refine ⟨fun e => ⟨fun h => ?_, ?_⟩, fun vs => ⟨fun h => ?_, fun h => ?_⟩⟩
  · cases hf : firstErr l with
    | none => rw [hf] at h; cases h
    | some e' => rw [hf] at h; cases h; exact (firstErr_split l).2 _ hf
  · rintro ⟨vs, post, rfl⟩
    rw [firstErr_map_ok_append]; rfl
  · cases hf : firstErr l with
    | none => rw [hf] at h; cases h; exact (firstErr_split l).1 hf
    | some e' => rw [hf] at h; cases h
  · rw [h, ← List.append_nil (vs.map _), firstErr_map_ok_append, List.append_nil, okValues_map_ok]; rfl

/-- **the three-way rule**, with the exact sequence of `uset` calls (iterator honouring the
`TrustedLen` contract): an empty output is left alone; equal lengths store item `i` in slot `i`
for `i = 0, 1, …` in order; a single item is stored in every slot; any other length is an error
and *nothing* has been written. -/
theorem write_cases (len : Nat) (items : List α) :
    (len = 0 → writeTrustIter len (Iter.exact items) = ⟨.ok, []⟩) ∧
    (len ≠ 0 → items.length = len →
      writeTrustIter len (Iter.exact items) = ⟨.ok, items.zipIdx.map fun p => (p.2, p.1)⟩) ∧
    (∀ v, len ≠ 0 → len ≠ 1 → items = [v] →
      writeTrustIter len (Iter.exact items) = ⟨.ok, (List.range len).map fun i => (i, v)⟩) ∧
    (len ≠ 0 → items.length ≠ len → items.length ≠ 1 →
      writeTrustIter len (Iter.exact items) = ⟨.err, []⟩) := by
  unfold writeTrustIter Iter.exact
  refine ⟨?_, ?_, ?_, ?_⟩
  · intro h; simp [h]
  · intro h0 hl
    simp only [hl.symm, if_true]
    rw [writeEach_eq _ _ _ _ (Nat.le_refl _)]
    simp [seqWrites]
  · rintro v h0 h1 rfl
    simp only [if_neg h0, List.length_cons, List.length_nil, Nat.zero_add, if_neg h1, if_true]
  · intro h0 hl h1
    simp only [if_neg h0, if_neg (Ne.symm hl), if_neg h1]

theorem write_ok_or_err (len : Nat) (items : List α) :
    (∃ ws, ∃ vs : List α, writeTrustIter len (Iter.exact items) = ⟨.ok, ws⟩ ∧ vs.length = len ∧
      applyWrites (uninit α len) ws = vs.map some ∧ Spec.write len items = (.ok, vs.map some)) ∨
    (writeTrustIter len (Iter.exact items) = ⟨.err, []⟩ ∧ Spec.write len items = (.err, uninit α len)) := by
  obtain ⟨c0, c1, c2, c3⟩ := write_cases len items
  unfold Spec.write
  by_cases h0 : len = 0
  · exact .inl ⟨_, [], c0 h0, h0.symm, by rw [h0]; rfl, if_pos h0⟩
  · rw [if_neg h0]
    by_cases hl : items.length = len
    · subst hl
      exact .inl ⟨_, items, c1 h0 rfl, rfl, applyWrites_all items, if_pos rfl⟩
    · rw [if_neg hl]
      by_cases h1 : items.length = 1
      · obtain ⟨v, rfl⟩ := List.length_eq_one_iff.mp h1
        exact .inl ⟨_, List.replicate len v, c2 v h0 (fun h => hl (h ▸ rfl)) rfl, List.length_replicate,
          applyWrites_bcast v len, by rw [List.map_replicate]⟩
      · refine .inr ⟨c3 h0 hl h1, ?_⟩
        split
        · exact absurd rfl h1
        · rfl

/-- **every slot filled, or an error and an untouched buffer**: the status and the final
contents of an uninitialised buffer of `len` slots are those of the specification — all of
`items` one to one, a single item broadcast, or `err` with every slot still uninitialised.
In particular there is no panic and no partially written state. -/
theorem write_buffer (len : Nat) (items : List α) :
    (writeTrustIter len (Iter.exact items)).status = (Spec.write len items).1 ∧
    applyWrites (uninit α len) (writeTrustIter len (Iter.exact items)).writes =
      (Spec.write len items).2 := by
  rcases write_ok_or_err len items with ⟨ws, vs, hw, -, hb, hspec⟩ | ⟨hw, hspec⟩
  · rw [hw, hspec]; exact ⟨rfl, hb⟩
  · rw [hw, hspec]; exact ⟨rfl, rfl⟩

/-- after `Ok(())` every slot of the buffer is initialised; after `Err` no `uset` happened -/
theorem write_ok_fills (len : Nat) (items : List α) :
    ((writeTrustIter len (Iter.exact items)).status = .ok →
      (applyWrites (uninit α len) (writeTrustIter len (Iter.exact items)).writes).length = len ∧
      ∀ o ∈ applyWrites (uninit α len) (writeTrustIter len (Iter.exact items)).writes, o ≠ none) ∧
    ((writeTrustIter len (Iter.exact items)).status = .err →
      (writeTrustIter len (Iter.exact items)).writes = []) := by
  rcases write_ok_or_err len items with ⟨ws, vs, hw, hlen, hb, -⟩ | ⟨hw, -⟩
  · rw [hw]
    refine ⟨fun _ => ?_, fun h => nomatch h⟩
    rw [hb, List.length_map]
    exact ⟨hlen, fun o ho => by obtain ⟨v, -, rfl⟩ := List.mem_map.1 ho; exact Option.some_ne_none v⟩
  · rw [hw]
    exact ⟨fun h => (nomatch h), fun _ => rfl⟩

/-! ## the defect of the pinned tree (F4) -/

/-- On the pinned tree integer `range` computed `(b-a)/step` with truncating division and an
identity `ceil`: `range(0, 5, 2)` was `[0, 2]` (the element `4 < 5` is missing), and the negative
count of `range(5, 0, 1)` wrapped to `2^64 - 5` elements, i.e. a "capacity overflow" panic in
`Vec::with_capacity`; the specification says `[0, 2, 4]` resp. `[]`. -/
theorem range_pinned_wrong :
    createRangePinned intOps 4 0 5 2 = .ok [0, 2] ∧ rangeInt 0 5 2 = [0, 2, 4] ∧
    createRangePinned intOps 4 5 0 1 = .panic ∧ rangeInt 5 0 1 = [] ∧
    createRange intOps .vec 4 0 5 2 = .ok [0, 2, 4] ∧ createRange intOps .vec 4 5 0 1 = .ok [] := by
  have e1 : countBefore ((0 : Int) : Rat) ((5 : Int) : Rat) ((2 : Int) : Rat) = 3 := by
    rw [countBefore, ceil_eq_of (n := 3)]
    · rfl
    · norm_num
    · norm_num
  have e2 : countBefore ((5 : Int) : Rat) ((0 : Int) : Rat) ((1 : Int) : Rat) = 0 :=
    Nat.eq_zero_of_not_pos ((countBefore_pos_iff _ _ _ (by norm_num)).not.2 (by norm_num [Before]))
  refine ⟨by decide, ?_, by decide, ?_, by decide, by decide⟩
  · unfold rangeInt; rw [e1]; decide
  · unfold rangeInt; rw [e2]; decide

/-! ## non-vacuity -/

/-- a descending float range with a span that is not a multiple of the step: `5, 3.5` -/
example : rangeRat 5 2 (-3 / 2) = [5, 7 / 2] := by
  have : countBefore 5 2 (-3 / 2) = 2 := by
    unfold countBefore
    have : ((2 : Rat) - 5) / (-3 / 2) = 2 := by norm_num
    rw [this]; rfl
  unfold rangeRat progression
  rw [this]
  simp [List.range_succ]
  norm_num

/-- the hypotheses of `write_buffer` / `write_cases` are met by a broadcast -/
example : writeTrustIter 3 (Iter.exact [7]) = ⟨.ok, [(0, 7), (1, 7), (2, 7)]⟩ := by decide

/-- an error leaves nothing written -/
example : writeTrustIter 3 (Iter.exact [1, 2]) = ⟨.err, []⟩ := by decide

/-- the first of two errors wins -/
example : (tryCollectFromIter .vec ⟨[.ok 1, .ok 2, .error "a", .ok 3, .error "b"], none⟩ :
    TryRes String Nat).result = .error "a" := by decide

end Tv.C19
