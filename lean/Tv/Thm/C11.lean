import Tv.Lemmas.C11Moments
import Tv.Lemmas.C11Ext
import Tv.Lemmas.C11Count
import Tv.Lemmas.C11Pair
import Tv.Generated
/-!
# C11 — aggregations equal their textbook definitions over the non-null elements

Model: `Tv/Model/C11.lean` (the folds of agg.rs / tea-agg/lib.rs as written, repaired
`vmean_var`); spec: `Tv/Spec/C11.lean` (definitions over `valid xs`, no running state).

The `*_filter` theorems are null transparency `g (xs.filter isSome) = g xs`; the theorems about
tea-agg's masked `n_vsum_filter` / `n_sum_filter` / `vmean_filter` (models `nVsumFilter`,
`nSumFilter`, `vmeanFilter`) are `n_vsum_filter_exact`, `vmean_filter_nan_iff`, …

Series elements are exact rationals, `none` is the canonical null (DESIGN §3, 5.4); the plain
(`AggBasic`) family is stated on null-free lists (DESIGN 5.6).
-/
namespace Tv.C11
open Tv

/-- `vsum` is `Σ` over the non-null elements, null iff there is none. -/
theorem vsum_exact (xs : List (Option Rat)) : vsum xs = Spec.vsum xs := by
  unfold vsum Spec.vsum
  rw [vfoldN_eq, foldl_add_eq, zero_add]
  exact ite_ge_eq _ _ _ _

/-- `vmean` is the arithmetic mean of the non-null elements, null iff there is none. -/
theorem vmean_exact (xs : List (Option Rat)) : vmean xs = Spec.vmean xs := by
  unfold vmean Spec.vmean
  rw [vfoldN_eq, foldl_add_eq, zero_add]
  exact ite_ge_eq _ _ _ _

/-- `vmean_var` (repaired code): mean and floored sample variance of the non-null elements. -/
theorem vmean_var_exact (mp : Nat) (xs : List (Option Rat)) :
    vmeanVar mp xs = Spec.vmeanVar mp xs := by
  unfold vmeanVar Spec.vmeanVar Spec.vmeanMp Spec.vvar Spec.req
  simp only [pows_n, pows_s1]
  by_cases h1 : (valid xs).length < mp
  · rw [if_pos h1, if_pos h1, if_pos (lt_max_of_lt_left h1)]
  · rw [if_neg h1, if_neg h1, div_length]
    by_cases h2 : (valid xs).length < 2
    · rw [if_pos h2, if_pos (lt_max_of_lt_right h2)]
    · rw [if_neg h2, if_neg (fun h => (lt_max_iff.mp h).elim h1 h2),
        pows_pvar xs (fun h0 => h2 (h0 ▸ Nat.zero_lt_two))]
      -- `pvar · n / (n-1)` is `Σ(x-mean)²/(n-1)`
      unfold Spec.sampleVar
      rw [csum2_eq_n_mul_cmom2 _ (fun h0 => h2 (h0 ▸ Nat.zero_lt_two)),
        Nat.cast_pred (Nat.le_of_lt (Nat.le_of_not_lt h2))]
      exact (apply_ite (Prod.mk _) _ _ _).symm

/-- `vvar` (repaired code): `Σ(x-mean)²/(n-1)` over the non-null elements with the documented
`EPS` floor; null iff `n < max min_periods 2`. -/
theorem vvar_exact (mp : Nat) (xs : List (Option Rat)) : vvar mp xs = Spec.vvar mp xs := by
  unfold vvar; rw [vmean_var_exact]; rfl

/-- `vstd` is the square root of `vvar`. -/
theorem vstd_exact (mp : Nat) (xs : List (Option Rat)) : vstd mp xs = Spec.vstd mp xs := by
  unfold vstd; rw [vvar_exact]
  unfold Spec.vvar Spec.vstd
  rw [apply_ite sqrtOut, apply_ite sqrtOut]; rfl

/-- `vskew`: adjusted Fisher–Pearson skewness `√(n(n−1))/(n−2)·m₃/m₂^{3/2}` of the non-null
elements (as sign and square), `0` under the variance floor, null iff `n < max min_periods 3`. -/
theorem vskew_exact (mp : Nat) (xs : List (Option Rat)) : vskew mp xs = Spec.vskew mp xs := by
  unfold vskew Spec.vskew Spec.req
  simp only [pows_n, pows_m1, pows_m3]
  rw [mask_max]
  refine if_ctx_congr Iff.rfl (fun _ => rfl) fun h => ?_
  have hn : (valid xs).length ≠ 0 :=
    Nat.ne_of_gt (Nat.lt_of_lt_of_le (by decide) (le_of_max_le_right (Nat.le_of_not_lt h)))
  rw [pows_pvar xs hn]
  refine if_ctx_congr Iff.rfl (fun _ => rfl) fun _ => ?_
  rw [← cmom3_raw _ hn]
  unfold Spec.skewOf Spec.sroot
  rw [ite_not]
  refine if_ctx_congr Iff.rfl (fun _ => rfl) fun _ => ?_
  congr 1
  exact (mul_div_assoc _ _ _).trans (mul_comm _ _)

/-- `vkurt`: excess kurtosis `((n²−1)·m₄/m₂² − 3(n−1)²)/((n−2)(n−3))` of the non-null elements,
`0` under the variance floor, null iff `n < max min_periods 4`. -/
theorem vkurt_exact (mp : Nat) (xs : List (Option Rat)) : vkurt mp xs = Spec.vkurt mp xs := by
  unfold vkurt Spec.vkurt Spec.req
  simp only [pows_n, pows_m1, pows_m3, pows_m4]
  rw [mask_max]
  refine if_ctx_congr Iff.rfl (fun _ => rfl) fun h => ?_
  have h4 : 4 ≤ (valid xs).length := le_of_max_le_right (Nat.le_of_not_lt h)
  have h1 : 1 ≤ (valid xs).length := Nat.le_trans (by decide) h4
  have hn : (valid xs).length ≠ 0 := Nat.ne_of_gt h1
  rw [pows_pvar xs hn]
  refine if_ctx_congr Iff.rfl (fun _ => rfl) fun hv => ?_
  have hv0 : Tv.Spec.cmom 2 (valid xs) ≠ 0 := fun h0 => hv (h0 ▸ EPS_pos.le)
  -- the guard `res != 0` never fires: `res = μ₄/μ₂²` and the spread is positive
  rw [kurt_res_eq _ hn hv0,
    if_pos (div_ne_zero (cmom4_ne_zero _ hn hv0) (mul_ne_zero hv0 hv0))]
  -- the integer factors of the adjustment, as rationals
  simp only [one_div_mul_eq_div, sq, Nat.cast_mul, Nat.cast_sub (Nat.mul_pos h1 h1 : 1 ≤ _ * _),
    Nat.cast_sub h1, Nat.cast_sub (Nat.le_trans (by decide) h4 : 2 ≤ _),
    Nat.cast_sub (Nat.le_trans (by decide) h4 : 3 ≤ _), Nat.cast_ofNat, Nat.cast_one]
  rfl

/-- `count_valid` (and the deprecated `count`) is the number of non-null elements. -/
theorem count_valid_exact (xs : List (Option α)) : countValid xs = Spec.countValid xs := by
  unfold countValid Spec.countValid; rw [vfoldN_eq]

/-- `count_none` is the number of null elements. -/
theorem count_none_exact (xs : List (Option α)) : countNone xs = Spec.countNone xs := by
  unfold countNone Spec.countNone
  rw [foldl_count (fun v : Option α => v.isNone = true) xs]
  congr 1
  apply List.filter_congr
  intro x _
  cases x <;> rfl

/-- valid and null elements partition the series. -/
theorem count_valid_add_count_none (xs : List (Option α)) :
    countValid xs + countNone xs = xs.length := by
  rw [count_valid_exact, count_none_exact]
  unfold Spec.countValid Spec.countNone
  induction xs with
  | nil => rfl
  | cons x xs ih =>
    cases x with
    | none =>
      rw [valid_cons_none, List.filter_cons_of_pos rfl, List.length_cons, List.length_cons,
        ← Nat.add_assoc, ih]
    | some a =>
      rw [valid_cons_some, List.filter_cons_of_neg Bool.false_ne_true, List.length_cons,
        List.length_cons, Nat.succ_add, ih]

/-- `vcount_value v` counts the elements equal to `v`; a null `v` counts the nulls. -/
theorem vcount_value_exact [DecidableEq α] (value : Option α) (xs : List (Option α)) :
    vcountValue value xs = Spec.countValue value xs := by
  unfold vcountValue Spec.countValue
  cases value with
  | some c =>
    -- the null-skipping step counts the elements equal to `some c`
    refine Eq.trans ?_ (foldl_count (· = some c) xs)
    show xs.foldl (vfoldStep _) 0 = _
    congr 1; funext acc o
    cases o with
    | none => exact (if_neg nofun).symm
    | some x => exact if_congr Option.some_inj.symm rfl rfl
  | none => exact (foldl_count _ xs).trans (congrArg List.length (filter_isNone_eq xs))

/-- `vfirst` is the first non-null element (never a null wrapped in `Some`). -/
theorem vfirst_exact (xs : List (Option α)) : vfirst xs = (Spec.firstValid xs).map some := by
  unfold vfirst Spec.firstValid; exact find_isSome_eq xs

/-- `vlast` is the last non-null element. -/
theorem vlast_exact (xs : List (Option α)) : vlast xs = (Spec.lastValid xs).map some := by
  unfold vlast Spec.lastValid
  rw [find_isSome_eq, valid_reverse, List.head?_reverse]

/-- `vany`: some non-null element is true. -/
theorem vany_exact (xs : List (Option Bool)) : vany xs = Spec.anyValid xs := by
  unfold vany Spec.anyValid; rw [vfold_eq, foldl_or]; simp

/-- `vall`: no non-null element is false. -/
theorem vall_exact (xs : List (Option Bool)) : vall xs = Spec.allValid xs := by
  unfold vall Spec.allValid; rw [vfold_eq, foldl_and]; simp

/-- `vmin` is the least non-null element (a member `≤` every member). -/
theorem vmin_exact (xs : List (Option Rat)) : vmin xs = Spec.vmin xs := by
  unfold vmin Spec.vmin
  rw [vfold_eq]; exact foldl_extWith_eq_extFind leR_good _ minWith_eq _

/-- `vmax` is the greatest non-null element. -/
theorem vmax_exact (xs : List (Option Rat)) : vmax xs = Spec.vmax xs := by
  unfold vmax Spec.vmax
  rw [vfold_eq]; exact foldl_extWith_eq_extFind geR_good _ maxWith_eq _

/-- **the minimum is a lower bound, the maximum an upper bound, and `vmin ≤ vmax`**: both are
non-null elements of the series, every non-null element lies between them -/
theorem vmin_le_vmax (xs : List (Option Rat)) (a b : Rat) (ha : vmin xs = some a)
    (hb : vmax xs = some b) :
    some a ∈ xs ∧ some b ∈ xs ∧ (∀ x, some x ∈ xs → a ≤ x ∧ x ≤ b) ∧ a ≤ b := by
  rw [vmin_exact] at ha
  rw [vmax_exact] at hb
  obtain ⟨ha1, ha2⟩ := (extFind_eq_some_iff leR_good _ _).mp ha
  obtain ⟨hb1, hb2⟩ := (extFind_eq_some_iff geR_good _ _).mp hb
  exact ⟨mem_valid.mp ha1, mem_valid.mp hb1,
    fun x hx => ⟨ha2 x (mem_valid.mpr hx), hb2 x (mem_valid.mpr hx)⟩, ha2 b hb1⟩

/-- `vargmin` is the position (nulls counted) of the FIRST occurrence of the least non-null
element. -/
theorem vargmin_exact (xs : List (Option Rat)) : vargmin xs = Spec.vargmin xs := by
  unfold vargmin Spec.vargmin
  rw [vargminStep_eq, argFold_eq leR_good, least_eq]
  cases extFind leR (valid xs) <;> rfl

/-- `vargmax` is the position of the FIRST occurrence of the greatest non-null element. -/
theorem vargmax_exact (xs : List (Option Rat)) : vargmax xs = Spec.vargmax xs := by
  unfold vargmax Spec.vargmax
  rw [vargmaxStep_eq, argFold_eq geR_good, greatest_eq]
  cases extFind geR (valid xs) <;> rfl

/-- **argmin_first**: the reported index holds the minimum, every valid element is `≥` it, and
every valid element strictly before it is strictly greater (ties resolve to the first). -/
theorem argmin_first (xs : List (Option Rat)) (i : Nat) (h : vargmin xs = some i) :
    ∃ m, xs[i]? = some (some m) ∧ (∀ v, some v ∈ xs → m ≤ v) ∧
      ∀ j v, j < i → xs[j]? = some (some v) → m < v := by
  unfold vargmin at h
  rw [vargminStep_eq] at h
  obtain ⟨m, h1, h2, h3⟩ := argFold_first leR_good xs i h
  exact ⟨m, h1, h2, fun j v hj hv => not_le.mp (h3 j v hj hv)⟩

/-- **argmax_first**: mirror image of `argmin_first`. -/
theorem argmax_first (xs : List (Option Rat)) (i : Nat) (h : vargmax xs = some i) :
    ∃ m, xs[i]? = some (some m) ∧ (∀ v, some v ∈ xs → v ≤ m) ∧
      ∀ j v, j < i → xs[j]? = some (some v) → v < m := by
  unfold vargmax at h
  rw [vargmaxStep_eq] at h
  obtain ⟨m, h1, h2, h3⟩ := argFold_first geR_good xs i h
  exact ⟨m, h1, h2, fun j v hj hv => not_le.mp (h3 j v hj hv)⟩

/-- `vcov`: sample covariance `Σ(a-ā)(b-b̄)/(n-1)` over the pairwise-complete pairs; null iff
`n < max min_periods 2`. -/
theorem vcov_exact (mp : Nat) (xs ys : List (Option Rat)) : vcov mp xs ys = Spec.vcov mp xs ys := by
  unfold vcov Spec.vcov Spec.req
  rw [pairs_eq, maxWithNat_eq]
  simp only []
  rw [ite_ge_eq]
  refine if_ctx_congr Iff.rfl (fun _ => rfl) fun h => ?_
  have h2 : 2 ≤ (Spec.pairsValid xs ys).length := le_of_max_le_right (Nat.le_of_not_lt h)
  rw [ccross_eq _ (Nat.ne_of_gt (Nat.lt_of_lt_of_le Nat.zero_lt_two h2)),
    Nat.cast_pred (Nat.le_of_lt h2)]

/-- `vcorr_pearson`: `Σ(a-ā)(b-b̄)/√(Σ(a-ā)²Σ(b-b̄)²)` over the pairwise-complete pairs (sign and
square); the zero denominator (a series without spread) is `degen`; null iff
`n < max min_periods 2`. -/
theorem vcorr_exact (mp : Nat) (xs ys : List (Option Rat)) :
    vcorr mp xs ys = Spec.vcorr mp xs ys := by
  unfold vcorr Spec.vcorr Spec.req
  rw [pairs_eq, maxWithNat_eq]
  simp only []
  rw [ite_ge_eq]
  refine if_ctx_congr Iff.rfl (fun _ => rfl) fun h => ?_
  have h1 : 0 < (Spec.pairsValid xs ys).length :=
    Nat.lt_of_lt_of_le (by decide) (le_of_max_le_right (Nat.le_of_not_lt h))
  have hn : (Spec.pairsValid xs ys).length ≠ 0 := Nat.ne_of_gt h1
  -- the one-pass variances are the second central moments, `exy - exey` is `Σ(a-ā)(b-b̄)/n`
  rw [pairVar_eq_cmom2 (·.1) _ hn, pairVar_eq_cmom2 (·.2) _ hn, ← div_div, ← sub_div, ← ccross_eq _ hn, ← ite_not]
  -- the guard `varA > EPS ∧ varB > EPS` is the negation of the spec's zero-spread test
  refine if_ctx_congr (by rw [not_and_or, not_lt, not_lt]; rfl) (fun _ => rfl) fun _ => ?_
  -- dividing by `n > 0` keeps the sign; `(S/n)²/(varA·varB) = S²/(Σ(a-ā)²·Σ(b-b̄)²)`
  rw [sgn_eq, sgn_div_pos _ _ (Nat.cast_pos.mpr h1), corr_sq,
    csum2_eq_n_mul_cmom2 _ (by rwa [List.length_map]),
    csum2_eq_n_mul_cmom2 _ (by rwa [List.length_map]), List.length_map, List.length_map]

/-- `n_vsum_filter`: count and sum of the non-null elements whose mask entry is a valid `true`. -/
theorem n_vsum_filter_exact (xs : List (Option Rat)) (ms : List (Option Bool)) :
    nVsumFilter xs ms = Spec.nVsumFilter xs ms := by
  unfold nVsumFilter Spec.nVsumFilter
  rw [vfoldN_eq, valid_keepFlag, foldl_add_eq]; simp

/-- `n_sum_filter`: that sum, null iff nothing is selected. -/
theorem n_sum_filter_exact (xs : List (Option Rat)) (ms : List (Option Bool)) :
    nSumFilter xs ms = Spec.nSumFilter xs ms := by
  unfold nSumFilter Spec.nSumFilter
  rw [n_vsum_filter_exact]
  exact ite_ge_eq _ 1 _ _

/-- `vmean_filter`: mean of the selected elements; null iff fewer than `min_periods` are
selected (`0/0` when `min_periods = 0` and nothing is selected). -/
theorem vmean_filter_exact (mp : Nat) (xs : List (Option Rat)) (ms : List (Option Bool)) :
    vmeanFilter mp xs ms = Spec.vmeanFilter mp xs ms := by
  unfold vmeanFilter Spec.vmeanFilter
  rw [n_vsum_filter_exact]
  exact (ite_ge_eq _ _ _ _).trans (if_congr Iff.rfl rfl (div_length _))

/-! ## plain aggregations (`AggBasic`; null-free input, DESIGN 5.6) -/

/-- `count_value`: number of elements equal to the value. -/
theorem count_value_exact [DecidableEq α] (v : α) (xs : List α) :
    countValueP v xs = Spec.countEq v xs :=
  foldl_count (· = v) xs

/-- `any` / `all` on booleans. -/
theorem any_exact (xs : List Bool) : anyP xs = xs.contains true := any_id_eq xs
theorem all_exact (xs : List Bool) : allP xs = !xs.contains false := all_id_eq xs

/-- `first` / `last` element. -/
theorem first_exact (xs : List α) : firstP xs = xs.head? := rfl
theorem last_exact (xs : List α) : lastP xs = xs.getLast? := by
  unfold lastP firstP; exact List.head?_reverse

/-- `n_sum`: length and sum (null on the empty series). -/
theorem n_sum_exact (xs : List Rat) : nSumP xs = (xs.length, Spec.sumPlain xs) := by
  unfold nSumP Spec.sumPlain
  rw [foldl_nsum]
  exact (ite_ge_eq _ _ _ _).trans (apply_ite (Prod.mk _) _ _ _).symm

theorem sum_exact (xs : List Rat) : sumP xs = Spec.sumPlain xs := by
  unfold sumP; rw [n_sum_exact]

theorem mean_exact (xs : List Rat) : meanP xs = Spec.meanPlain xs := by
  unfold meanP; rw [n_sum_exact]
  unfold Spec.sumPlain Spec.meanPlain
  by_cases h : xs.length < 1 <;> simp [h, Tv.Spec.mean]

theorem min_exact (xs : List Rat) : minP xs = Spec.least xs :=
  foldl_extWith_eq_extFind leR_good _ minWith_eq xs

theorem max_exact (xs : List Rat) : maxP xs = Spec.greatest xs :=
  foldl_extWith_eq_extFind geR_good _ maxWith_eq xs

theorem argminP_eq_vargmin (xs : List Rat) : argminP xs = vargmin (xs.map some) := by
  unfold argminP vargmin
  rw [List.foldl_map]; rfl

theorem argmaxP_eq_vargmax (xs : List Rat) : argmaxP xs = vargmax (xs.map some) := by
  unfold argmaxP vargmax
  rw [List.foldl_map]; rfl

/-- `argmin`: position of the first occurrence of the least element. -/
theorem argmin_exact (xs : List Rat) : argminP xs = Spec.argmin xs := by
  rw [argminP_eq_vargmin, vargmin_exact]
  unfold Spec.vargmin Spec.argmin
  rw [valid_map_some]
  cases Spec.least xs with
  | none => rfl
  | some m => exact findIdx?_map_some xs m

/-- `argmax`: position of the first occurrence of the greatest element. -/
theorem argmax_exact (xs : List Rat) : argmaxP xs = Spec.argmax xs := by
  rw [argmaxP_eq_vargmax, vargmax_exact]
  unfold Spec.vargmax Spec.argmax
  rw [valid_map_some]
  cases Spec.greatest xs with
  | none => rfl
  | some m => exact findIdx?_map_some xs m

/-! ## null exactly when fewer than the required number of valid observations exist

`req`: sum / mean / extrema 1, variance / std / covariance / correlation 2, skewness 3,
kurtosis 4, each combined with `min_periods` by `max`. `Out.degen` (a `0/0`) is not `Out.null`;
the `_nan_iff` variants cover both. -/

theorem vsum_null_iff (xs : List (Option Rat)) : vsum xs = .null ↔ (valid xs).length < 1 := by
  rw [vsum_exact]; exact ite_null_iff nofun

theorem vmean_null_iff (xs : List (Option Rat)) : vmean xs = .null ↔ (valid xs).length < 1 := by
  rw [vmean_exact]; exact ite_null_iff nofun

theorem vvar_null_iff (mp : Nat) (xs : List (Option Rat)) :
    vvar mp xs = .null ↔ (valid xs).length < max mp 2 := by
  rw [vvar_exact]; exact ite_null_iff (ite_ne nofun nofun)

theorem vstd_null_iff (mp : Nat) (xs : List (Option Rat)) :
    vstd mp xs = .null ↔ (valid xs).length < max mp 2 := by
  rw [vstd_exact]; exact ite_null_iff (ite_ne nofun nofun)

/-- the mean component of `vmean_var` is NaN (null or `0/0`) iff `n < max min_periods 1` -/
theorem vmean_var_mean_nan_iff (mp : Nat) (xs : List (Option Rat)) :
    ((vmeanVar mp xs).1 = .null ∨ (vmeanVar mp xs).1 = .degen) ↔ (valid xs).length < max mp 1 := by
  rw [vmean_var_exact]; exact mean_nan_iff _ _ _

theorem vmean_var_var_null_iff (mp : Nat) (xs : List (Option Rat)) :
    (vmeanVar mp xs).2 = .null ↔ (valid xs).length < max mp 2 := vvar_null_iff mp xs

theorem vskew_null_iff (mp : Nat) (xs : List (Option Rat)) :
    vskew mp xs = .null ↔ (valid xs).length < max mp 3 := by
  rw [vskew_exact]; exact ite_null_iff (ite_ne nofun (ite_ne nofun nofun))

theorem vkurt_null_iff (mp : Nat) (xs : List (Option Rat)) :
    vkurt mp xs = .null ↔ (valid xs).length < max mp 4 := by
  rw [vkurt_exact]; exact ite_null_iff (ite_ne nofun nofun)

theorem vmin_none_iff (xs : List (Option Rat)) : vmin xs = none ↔ (valid xs).length < 1 := by
  rw [vmin_exact, Nat.lt_one_iff, List.length_eq_zero_iff]
  exact extFind_eq_none_iff leR_good _

theorem vmax_none_iff (xs : List (Option Rat)) : vmax xs = none ↔ (valid xs).length < 1 := by
  rw [vmax_exact, Nat.lt_one_iff, List.length_eq_zero_iff]
  exact extFind_eq_none_iff geR_good _

theorem vargmin_none_iff (xs : List (Option Rat)) : vargmin xs = none ↔ (valid xs).length < 1 := by
  unfold vargmin
  rw [vargminStep_eq, argFold_none_iff leR_good, Nat.lt_one_iff, List.length_eq_zero_iff]

theorem vargmax_none_iff (xs : List (Option Rat)) : vargmax xs = none ↔ (valid xs).length < 1 := by
  unfold vargmax
  rw [vargmaxStep_eq, argFold_none_iff geR_good, Nat.lt_one_iff, List.length_eq_zero_iff]

theorem vcov_null_iff (mp : Nat) (xs ys : List (Option Rat)) :
    vcov mp xs ys = .null ↔ (Spec.pairsValid xs ys).length < max mp 2 := by
  rw [vcov_exact]; exact ite_null_iff nofun

theorem vcorr_null_iff (mp : Nat) (xs ys : List (Option Rat)) :
    vcorr mp xs ys = .null ↔ (Spec.pairsValid xs ys).length < max mp 2 := by
  rw [vcorr_exact]; exact ite_null_iff (ite_ne nofun nofun)

theorem n_sum_filter_null_iff (xs : List (Option Rat)) (ms : List (Option Bool)) :
    nSumFilter xs ms = .null ↔ (Spec.selected xs ms).length < 1 := by
  rw [n_sum_filter_exact]; exact ite_null_iff nofun

/-- `vmean_filter` is NaN (null or `0/0`) iff fewer than `max min_periods 1` elements are
selected -/
theorem vmean_filter_nan_iff (mp : Nat) (xs : List (Option Rat)) (ms : List (Option Bool)) :
    (vmeanFilter mp xs ms = .null ∨ vmeanFilter mp xs ms = .degen)
      ↔ (Spec.selected xs ms).length < max mp 1 := by
  rw [vmean_filter_exact]; exact mean_nan_iff _ _ _

/-! ## the variance floor (DESIGN 5.6) -/

/-- outside the floor band the reported variance IS the textbook sample variance -/
theorem vvar_textbook (mp : Nat) (xs : List (Option Rat)) (hn : max mp 2 ≤ (valid xs).length)
    (hv : Tv.Spec.cmom 2 (valid xs) = 0 ∨ Tv.Spec.cmom 2 (valid xs) > Tv.Spec.EPS) :
    vvar mp xs = .val (Spec.sampleVar (valid xs)) := by
  rw [vvar_exact]; unfold Spec.vvar Spec.req
  rw [if_neg (Nat.not_lt.mpr hn)]
  rcases hv with hv | hv
  · rw [if_pos (hv ▸ EPS_pos.le)]
    unfold Spec.sampleVar
    rw [csum2_eq_n_mul_cmom2 _ (Nat.ne_of_gt (Nat.lt_of_lt_of_le (by decide)
      (le_of_max_le_right hn))), hv, zero_mul, zero_div]
  · rw [if_neg (not_le.mpr hv)]

/-- unconditionally the reported variance is within `2·EPS` of the textbook sample variance -/
theorem vvar_floor_bound (mp : Nat) (xs : List (Option Rat)) (hn : max mp 2 ≤ (valid xs).length) :
    ∃ v, vvar mp xs = .val v ∧ |v - Spec.sampleVar (valid xs)| ≤ 2 * Tv.Spec.EPS := by
  have h2 : 2 ≤ (valid xs).length := le_of_max_le_right hn
  rw [vvar_exact]; unfold Spec.vvar Spec.req
  rw [if_neg (Nat.not_lt.mpr hn)]
  by_cases hv : Tv.Spec.cmom 2 (valid xs) ≤ Tv.Spec.EPS
  · rw [if_pos hv]
    refine ⟨0, rfl, ?_⟩
    rw [zero_sub, abs_neg, abs_of_nonneg (sampleVar_nonneg _ h2)]
    exact (sampleVar_le _ h2).trans (mul_le_mul_of_nonneg_left hv zero_le_two)
  · rw [if_neg hv]
    refine ⟨_, rfl, ?_⟩
    rw [sub_self, abs_zero]
    exact (mul_pos two_pos EPS_pos).le

/-! ## finding F10: the pinned `vmean_var` reported variance 0 for a single observation -/

/-- witness on the model of the PINNED code: one observation, variance `0` instead of null -/
theorem vvar_pinned_wrong :
    vvarPinned 0 [some 5] = .val 0 ∧ Spec.vvar 0 [some 5] = .null ∧ vvar 0 [some 5] = .null := by
  exact ⟨by decide +kernel, by decide, by decide⟩

/-- the pinned model disagrees with the spec for EVERY series with exactly one valid element
(`min_periods ≤ 1`); the repaired one agrees everywhere (`vvar_exact`) -/
theorem vvar_pinned_wrong_all (mp : Nat) (xs : List (Option Rat)) (h1 : (valid xs).length = 1)
    (hmp : mp ≤ 1) : vvarPinned mp xs = .val 0 ∧ Spec.vvar mp xs = .null := by
  constructor
  · unfold vvarPinned vmeanVarPinned
    simp only [pows_n, h1]
    have hp : (pows xs).pvar = 0 := by
      rw [pows_pvar xs (h1 ▸ Nat.one_ne_zero)]
      obtain ⟨a, ha⟩ := List.length_eq_one_iff.mp h1
      rw [ha]; simp [Tv.Spec.cmom, Tv.Spec.csum, Tv.Spec.mean, Tv.Spec.sum]
    rw [if_neg (Nat.not_lt.mpr hmp), if_neg Nat.one_ne_zero, hp, if_pos (EPS_eq ▸ EPS_pos.le)]
  · unfold Spec.vvar Spec.req
    rw [if_pos (h1 ▸ lt_max_of_lt_right Nat.one_lt_two)]

/-! ## invariance under any permutation of the input (the symmetric aggregations)

`vfirst`, `vlast`, `vargmin`, `vargmax` (and their plain versions) are positional and are not
in this list. For two series / a masked series the permutation acts on the zipped pairs. -/

section Perm
variable {xs ys : List (Option Rat)}

theorem count_valid_perm {xs ys : List (Option α)} (h : xs.Perm ys) :
    countValid xs = countValid ys := by
  rw [count_valid_exact, count_valid_exact]; exact (valid_perm h).length_eq

theorem count_none_perm {xs ys : List (Option α)} (h : xs.Perm ys) :
    countNone xs = countNone ys := by
  rw [count_none_exact, count_none_exact]; exact (h.filter _).length_eq

theorem vcount_value_perm [DecidableEq α] (v : Option α) {xs ys : List (Option α)}
    (h : xs.Perm ys) : vcountValue v xs = vcountValue v ys := by
  rw [vcount_value_exact, vcount_value_exact]; exact (h.filter _).length_eq

theorem vany_perm {xs ys : List (Option Bool)} (h : xs.Perm ys) : vany xs = vany ys := by
  rw [vany_exact, vany_exact]; exact (valid_perm h).contains_eq

theorem vall_perm {xs ys : List (Option Bool)} (h : xs.Perm ys) : vall xs = vall ys := by
  simp only [vall_exact, Spec.allValid, (valid_perm h).contains_eq]

theorem vsum_perm (h : xs.Perm ys) : vsum xs = vsum ys := by
  simp only [vsum_exact, Spec.vsum, (valid_perm h).length_eq, sum_perm (valid_perm h)]

theorem vmean_perm (h : xs.Perm ys) : vmean xs = vmean ys := by
  simp only [vmean_exact, Spec.vmean, (valid_perm h).length_eq, mean_perm (valid_perm h)]

theorem vvar_perm (mp : Nat) (h : xs.Perm ys) : vvar mp xs = vvar mp ys := by
  simp only [vvar_exact, Spec.vvar, (valid_perm h).length_eq, cmom_perm 2 (valid_perm h),
    sampleVar_perm (valid_perm h)]

theorem vmean_var_perm (mp : Nat) (h : xs.Perm ys) : vmeanVar mp xs = vmeanVar mp ys := by
  simp only [vmean_var_exact, Spec.vmeanVar, Spec.vmeanMp, ← vvar_exact, vvar_perm mp h,
    (valid_perm h).length_eq, mean_perm (valid_perm h)]

theorem vstd_perm (mp : Nat) (h : xs.Perm ys) : vstd mp xs = vstd mp ys := by
  unfold vstd; rw [vvar_perm mp h]

theorem vskew_perm (mp : Nat) (h : xs.Perm ys) : vskew mp xs = vskew mp ys := by
  simp only [vskew_exact, Spec.vskew, (valid_perm h).length_eq, cmom_perm 2 (valid_perm h),
    skewOf_perm (valid_perm h)]

theorem vkurt_perm (mp : Nat) (h : xs.Perm ys) : vkurt mp xs = vkurt mp ys := by
  simp only [vkurt_exact, Spec.vkurt, (valid_perm h).length_eq, cmom_perm 2 (valid_perm h),
    kurtOf_perm (valid_perm h)]

theorem vmin_perm (h : xs.Perm ys) : vmin xs = vmin ys := by
  rw [vmin_exact, vmin_exact]; exact least_perm (valid_perm h)

theorem vmax_perm (h : xs.Perm ys) : vmax xs = vmax ys := by
  rw [vmax_exact, vmax_exact]; exact greatest_perm (valid_perm h)

theorem vcov_perm (mp : Nat) {xs' ys' : List (Option Rat)}
    (h : (xs.zip ys).Perm (xs'.zip ys')) : vcov mp xs ys = vcov mp xs' ys' := by
  have hp := pairsValid_perm h
  simp only [vcov_exact, Spec.vcov, hp.length_eq, ccross_perm hp]

theorem vcorr_perm (mp : Nat) {xs' ys' : List (Option Rat)}
    (h : (xs.zip ys).Perm (xs'.zip ys')) : vcorr mp xs ys = vcorr mp xs' ys' := by
  have hp := pairsValid_perm h
  have ha := hp.map (·.1)
  have hb := hp.map (·.2)
  simp only [vcorr_exact, Spec.vcorr, hp.length_eq, ccross_perm hp, cmom_perm 2 ha, cmom_perm 2 hb, mean_perm ha,
    mean_perm hb, csum_perm 2 _ ha, csum_perm 2 _ hb]

theorem n_vsum_filter_perm {xs' : List (Option Rat)} {ms ms' : List (Option Bool)}
    (h : (xs.zip ms).Perm (xs'.zip ms')) : nVsumFilter xs ms = nVsumFilter xs' ms' := by
  simp only [n_vsum_filter_exact, Spec.nVsumFilter, (selected_perm h).length_eq,
    sum_perm (selected_perm h)]

theorem n_sum_filter_perm {xs' : List (Option Rat)} {ms ms' : List (Option Bool)}
    (h : (xs.zip ms).Perm (xs'.zip ms')) : nSumFilter xs ms = nSumFilter xs' ms' := by
  unfold nSumFilter; rw [n_vsum_filter_perm h]

theorem vmean_filter_perm (mp : Nat) {xs' : List (Option Rat)} {ms ms' : List (Option Bool)}
    (h : (xs.zip ms).Perm (xs'.zip ms')) : vmeanFilter mp xs ms = vmeanFilter mp xs' ms' := by
  unfold vmeanFilter; rw [n_vsum_filter_perm h]

theorem count_value_perm [DecidableEq α] (v : α) {a b : List α} (h : a.Perm b) :
    countValueP v a = countValueP v b := by
  rw [count_value_exact, count_value_exact]; exact (h.filter _).length_eq

theorem any_perm {a b : List Bool} (h : a.Perm b) : anyP a = anyP b := by
  rw [any_exact, any_exact]; exact h.contains_eq

theorem all_perm {a b : List Bool} (h : a.Perm b) : allP a = allP b := by
  rw [all_exact, all_exact, h.contains_eq]

theorem sum_plain_perm {a b : List Rat} (h : a.Perm b) : sumP a = sumP b := by
  simp only [sum_exact, Spec.sumPlain, h.length_eq, sum_perm h]

theorem mean_plain_perm {a b : List Rat} (h : a.Perm b) : meanP a = meanP b := by
  simp only [mean_exact, Spec.meanPlain, h.length_eq, mean_perm h]

theorem min_perm {a b : List Rat} (h : a.Perm b) : minP a = minP b := by
  rw [min_exact, min_exact]; exact least_perm h

theorem max_perm {a b : List Rat} (h : a.Perm b) : maxP a = maxP b := by
  rw [max_exact, max_exact]; exact greatest_perm h

end Perm

/-! ## null transparency: `g xs = g (xs.filter isSome)` (reused by C08) -/

section Filter
variable (xs : List (Option Rat))

theorem count_valid_filter (xs : List (Option α)) :
    countValid (xs.filter (·.isSome)) = countValid xs :=
  congrArg Prod.fst (foldl_filter_isSome _ (fun _ => rfl) xs _)

theorem vfirst_filter (xs : List (Option α)) : vfirst (xs.filter (·.isSome)) = vfirst xs := by
  rw [vfirst_exact, vfirst_exact]; unfold Spec.firstValid; rw [valid_filter_isSome]

theorem vlast_filter (xs : List (Option α)) : vlast (xs.filter (·.isSome)) = vlast xs := by
  rw [vlast_exact, vlast_exact]; unfold Spec.lastValid; rw [valid_filter_isSome]

theorem vany_filter (xs : List (Option Bool)) : vany (xs.filter (·.isSome)) = vany xs :=
  foldl_filter_isSome _ (fun _ => rfl) xs _

theorem vall_filter (xs : List (Option Bool)) : vall (xs.filter (·.isSome)) = vall xs :=
  foldl_filter_isSome _ (fun _ => rfl) xs _

theorem vsum_filter : vsum (xs.filter (·.isSome)) = vsum xs := by
  unfold vsum vfoldN; rw [foldl_filter_isSome _ (fun _ => rfl)]

theorem vmean_filter : vmean (xs.filter (·.isSome)) = vmean xs := by
  unfold vmean vfoldN; rw [foldl_filter_isSome _ (fun _ => rfl)]

theorem vmean_var_filter (mp : Nat) : vmeanVar mp (xs.filter (·.isSome)) = vmeanVar mp xs := by
  unfold vmeanVar; rw [pows_filter]

theorem vvar_filter (mp : Nat) : vvar mp (xs.filter (·.isSome)) = vvar mp xs := by
  unfold vvar; rw [vmean_var_filter]

theorem vstd_filter (mp : Nat) : vstd mp (xs.filter (·.isSome)) = vstd mp xs := by
  unfold vstd; rw [vvar_filter]

theorem vskew_filter (mp : Nat) : vskew mp (xs.filter (·.isSome)) = vskew mp xs := by
  unfold vskew; rw [pows_filter]

theorem vkurt_filter (mp : Nat) : vkurt mp (xs.filter (·.isSome)) = vkurt mp xs := by
  unfold vkurt; rw [pows_filter]

theorem vmin_filter : vmin (xs.filter (·.isSome)) = vmin xs :=
  foldl_filter_isSome _ (fun _ => rfl) xs _

theorem vmax_filter : vmax (xs.filter (·.isSome)) = vmax xs :=
  foldl_filter_isSome _ (fun _ => rfl) xs _

/-- counting a non-null value ignores the nulls -/
theorem vcount_value_filter [DecidableEq α] (c : α) (xs : List (Option α)) :
    vcountValue (some c) (xs.filter (·.isSome)) = vcountValue (some c) xs :=
  foldl_filter_isSome _ (fun _ => rfl) xs _

end Filter

/-! ## ties to the Rust sources (regenerated by translator/extract.py on every run) -/

/-- the `n >= k` / `n < k` / `max_with(k)` constants of the Rust bodies are the ones modelled -/
theorem agg_min_obs_matches : Generated.aggMinObs = minObsTable := rfl

/-- `EPS` of tea-core/src/prelude.rs is the model's (and the spec's) floor -/
theorem eps_matches : EPS = (Generated.epsNum : Rat) / (Generated.epsDen : Rat) := by
  decide +kernel

/-! ## non-vacuity: the hypotheses / branches are inhabited by concrete canonical series -/

/-- three valid observations among nulls -/
example : vsum [some 1, none, some 2, some 4] = .val 7 := by
  decide +kernel

example : (valid [some (1 : Rat), none, some 2, some 4]).length = 3 := by decide

/-- the hypotheses of `vvar_textbook` / `vvar_floor_bound` hold for `[1, null, 3]`, `mp = 2` -/
example : max 2 2 ≤ (valid [some (1 : Rat), none, some 3]).length := by decide

/-- `argmin_first` is not vacuous: ties are present and the first one is reported -/
example : vargmin [none, some 2, some (-1), some (-1)] = some 2 := by
  decide

/-- a permutation with nulls moved around -/
example : [some (1 : Rat), none, some 3].Perm [none, some 3, some 1] := by decide

end Tv.C11
