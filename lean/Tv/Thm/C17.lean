import Tv.Lemmas.C17
import Tv.Lemmas.C16Cal
import Tv.Generated
/-!
  C17 — date-time, duration and time-of-day arithmetic obeys its inverse laws.

  All statements are about the executable model `Tv.Model.C17` (tied to the Rust code by the
  correspondence run); `DtOk u t` says that instant `t` is representable (inside chrono's
  range, and a non-NaT `i64` at nanosecond precision). The vocabulary of the statements (`DtOk`,
  `TD.add` / `neg` / `smul`, `TD.Valid`, `todOf`) is defined in `Lemmas/C17`.
-/
namespace Tv.C17

/-! ### date-time ± month-free duration -/

/-- `x + d` for a month-free duration is the floor, at the unit, of the exact instant. -/
theorem dtAdd_fixed (u : TUnit) (x n : Int)
    (h0 : DtOk u (x * u.mult)) (h1 : DtOk u (x * u.mult + n)) :
    dtAdd u x ⟨0, n⟩ = .ok ((x * u.mult + n) / u.mult) := by
  rw [dtAdd_of_ok h0 (td0_not_nat n), addMonthsCr_zero, Res.bind_ok, addDurCr_ok h1.1, Res.bind_ok,
    fromCr_of_DtOk h1]

/-- the same for `x - d` -/
theorem dtSub_fixed (u : TUnit) (x n : Int)
    (h0 : DtOk u (x * u.mult)) (h1 : DtOk u (x * u.mult - n)) :
    dtSub u x ⟨0, n⟩ = .ok ((x * u.mult - n) / u.mult) := by
  rw [dtSub_eq_dtAdd_neg, Int.sub_eq_add_neg]
  exact dtAdd_fixed u x (-n) h0 h1

/-- if the exact sum is a whole number of units the floor disappears -/
theorem dtAdd_whole (u : TUnit) (x n y : Int) (h0 : DtOk u (x * u.mult)) (e : x * u.mult + n = y * u.mult)
    (h1 : DtOk u (y * u.mult)) : dtAdd u x ⟨0, n⟩ = .ok y := by
  rw [dtAdd_fixed u x n h0 (e ▸ h1), e, Int.mul_ediv_cancel _ (Int.ne_of_gt (TUnit.mult_pos u))]

/-- **Inverse law.** Adding a month-free duration that is a whole number of units and
subtracting it again returns the original value. -/
theorem add_sub_cancel (u : TUnit) (x n : Int) (hdiv : u.mult ∣ n)
    (h0 : DtOk u (x * u.mult)) (h1 : DtOk u (x * u.mult + n)) :
    (dtAdd u x ⟨0, n⟩).bind (fun y => dtSub u y ⟨0, n⟩) = .ok x := by
  obtain ⟨k, rfl⟩ := hdiv
  have e : x * u.mult + u.mult * k = (x + k) * u.mult := by rw [Int.add_mul, Int.mul_comm k]
  rw [dtAdd_whole u x _ _ h0 e (e ▸ h1), Res.bind_ok, dtSub_eq_dtAdd_neg,
    dtAdd_whole u (x + k) _ x (e ▸ h1) (by omega) h0]

/-- **Sharpness (finding F23).** On a coarse unit, a month-free duration that is *not* a whole
number of units does not cancel: the round trip loses exactly one unit. -/
theorem add_sub_coarse (u : TUnit) (x n : Int) (hdiv : ¬ u.mult ∣ n)
    (h0 : DtOk u (x * u.mult)) (h0' : DtOk u (x * u.mult - u.mult))
    (h1 : DtOk u (x * u.mult + n)) (h1' : DtOk u (x * u.mult + n - u.mult)) :
    (dtAdd u x ⟨0, n⟩).bind (fun y => dtSub u y ⟨0, n⟩) = .ok (x - 1) := by
  have hns : u = .ns → False := by rintro rfl; exact hdiv (Int.one_dvd n)
  have hM := TUnit.mult_pos u
  obtain ⟨hn, hr0, hr1⟩ := ediv_emod_pos n hM
  have : n % u.mult ≠ 0 := fun h => hdiv (Int.dvd_of_emod_eq_zero h)
  -- the sum floors to `x + n / M`, whose instant lies `n % M` before the exact one
  have e1 : (x * u.mult + n) / u.mult = x + n / u.mult := by
    rw [Int.add_comm, Int.add_mul_ediv_right _ _ (Int.ne_of_gt hM), Int.add_comm]
  have e2 : (x + n / u.mult) * u.mult = x * u.mult + n - n % u.mult := by
    rw [Int.add_mul, Int.mul_comm (n / u.mult)]; omega
  have e3 : (x + n / u.mult) * u.mult - n = u.mult - n % u.mult + (x - 1) * u.mult := by
    rw [e2, Int.sub_mul, Int.one_mul]; omega
  rw [dtAdd_fixed u x _ h0 h1, Res.bind_ok, e1,
    dtSub_fixed u _ _ ⟨inCr_between h1'.1 h1.1 (by omega) (by omega), fun h => (hns h).elim⟩
      ⟨inCr_between h0'.1 h0.1 (by omega) (by omega), fun h => (hns h).elim⟩,
    e3, Int.add_mul_ediv_right _ _ (Int.ne_of_gt hM), Int.ediv_eq_zero_of_lt (by omega) (by omega), Int.zero_add]

/-- **Difference law.** The difference of two date-times added to the subtrahend gives the
minuend, at every unit. -/
theorem diff_add (u : TUnit) (a b : Int)
    (ha : DtOk u (a * u.mult)) (hb : DtOk u (b * u.mult)) :
    (dtDiff u a b).bind (fun d => dtAdd u b d) = .ok a := by
  rw [dtDiff_of_ok ha hb, Res.bind_ok, dtAdd_whole u b _ a hb (by omega) ha]

/-- The difference of two date-times is the month-free duration between their instants. -/
theorem dtDiff_val (u : TUnit) (a b : Int)
    (ha : DtOk u (a * u.mult)) (hb : DtOk u (b * u.mult)) :
    dtDiff u a b = .ok ⟨0, (a - b) * u.mult⟩ := by
  rw [dtDiff_of_ok ha hb, Int.sub_mul]

/-! ### durations form a group; integer scaling distributes -/

/-- `+` computes the component-wise sum whenever the sum is representable. -/
theorem tdAdd_exact {a b : TD} (ha : a.Valid) (hb : b.Valid) (hab : (a.add b).Valid) :
    tdAdd a b = .ok (a.add b) := by
  have h1 : inI32 (a.months + b.months) = true := hab.inI32
  have h2 : inDur (a.inner + b.inner) = true := hab.2.2
  simp only [tdAdd, ha.not_nat, hb.not_nat, Bool.not_false, Bool.and_self, if_true, h1, h2, TD.add]

/-- unary `-` computes the component-wise negation (and stays representable). -/
theorem tdNeg_exact {a : TD} (ha : a.Valid) : tdNeg a = a.neg ∧ a.neg.Valid := by
  refine ⟨by simp only [tdNeg, ha.not_nat, Bool.not_false, if_true, TD.neg], ?_⟩
  simp only [TD.Valid, TD.neg, inDur_iff, i32Min, i32Max] at ha ⊢
  omega

/-- Subtraction is addition of the negation (operator form). -/
theorem tdSub_eq_add_neg {a b : TD} (ha : a.Valid) (hb : b.Valid) (hab : (a.add b.neg).Valid) :
    tdSub a b = tdAdd a (tdNeg b) := by
  obtain ⟨e, hv⟩ := tdNeg_exact hb
  have hn : (TD.mk (-b.months) (-b.inner)).isNat = false := hv.not_nat
  simp only [e, tdSub, tdAdd, TD.neg, hb.not_nat, hn, Int.sub_eq_add_neg]

/-- `-` (binary) computes the component-wise difference. -/
theorem tdSub_exact {a b : TD} (ha : a.Valid) (hb : b.Valid) (hab : (a.add b.neg).Valid) :
    tdSub a b = .ok (a.add b.neg) := by
  rw [tdSub_eq_add_neg ha hb hab, (tdNeg_exact hb).1, tdAdd_exact ha (tdNeg_exact hb).2 hab]

/-- `* i32` computes the component-wise product whenever the product is representable. -/
theorem tdMul_exact {a : TD} {k : Int} (ha : a.Valid) (hk : (TD.smul k a).Valid) :
    tdMul a k = .ok (TD.smul k a) := by
  have h1 : inI32 (a.months * k) = true := hk.inI32
  have h2 : mulOk a.inner k = true := by
    have := hk.2.2
    rw [inDur_iff] at this
    rw [mulOk_iff]
    simp only [TD.smul] at this
    omega
  simp only [tdMul, ha.not_nat, Bool.not_false, if_true, h1, h2, Bool.and_self, TD.smul]

/-- **Group laws** of the component-wise operations: associativity, commutativity, identity,
inverse. -/
theorem td_group (a b c : TD) :
    (a.add b).add c = a.add (b.add c) ∧ a.add b = b.add a ∧ a.add TD.zero = a ∧
    a.add a.neg = TD.zero ∧ a.neg.neg = a := by
  refine ⟨?_, ?_, ?_, ?_, ?_⟩
  · simp only [TD.add, Int.add_assoc]
  · simp only [TD.add, Int.add_comm]
  · simp only [TD.add, TD.zero, Int.add_zero]
  · simp only [TD.add, TD.neg, TD.zero, Int.add_right_neg]
  · simp only [TD.neg, Int.neg_neg]

/-- **Scaling distributes** over addition of durations and over addition of scalars;
`1` is the unit and `0` annihilates. -/
theorem td_scale_distrib (a b : TD) (k l : Int) :
    TD.smul k (a.add b) = (TD.smul k a).add (TD.smul k b) ∧
    TD.smul (k + l) a = (TD.smul k a).add (TD.smul l a) ∧
    TD.smul 1 a = a ∧ TD.smul 0 a = TD.zero := by
  refine ⟨?_, ?_, ?_, ?_⟩
  · simp only [TD.smul, TD.add, Int.add_mul]
  · simp only [TD.smul, TD.add, Int.mul_add]
  · simp only [TD.smul, Int.mul_one]
  · simp only [TD.smul, TD.zero, Int.mul_zero]

/-- Associativity of the operator itself: whenever both inner sums are representable, the
two bracketings behave identically (same value, or both panic). -/
theorem tdAdd_assoc {a b c : TD} (ha : a.Valid) (hb : b.Valid) (hc : c.Valid)
    (hab : (a.add b).Valid) (hbc : (b.add c).Valid) :
    (tdAdd a b).bind (fun x => tdAdd x c) = (tdAdd b c).bind (fun y => tdAdd a y) := by
  rw [tdAdd_exact ha hb hab, tdAdd_exact hb hc hbc, Res.bind_ok, Res.bind_ok]
  have hab' : (TD.mk (a.months + b.months) (a.inner + b.inner)).isNat = false := hab.not_nat
  have hbc' : (TD.mk (b.months + c.months) (b.inner + c.inner)).isNat = false := hbc.not_nat
  simp only [tdAdd, ha.not_nat, hc.not_nat, hab', hbc', TD.add, Int.add_assoc, Bool.not_false,
    Bool.and_self, if_true]
  rfl

/-- Commutativity of the operator, unconditionally (NaT and panics included). -/
theorem tdAdd_comm (a b : TD) : tdAdd a b = tdAdd b a := by
  simp only [tdAdd, Int.add_comm a.months, Int.add_comm a.inner, Bool.and_comm (!a.isNat)]

/-- Identity and inverse for the operator. -/
theorem tdAdd_zero_neg {a : TD} (ha : a.Valid) :
    tdAdd a TD.zero = .ok a ∧ tdAdd TD.zero a = .ok a ∧ tdAdd a (tdNeg a) = .ok TD.zero := by
  have hz : TD.zero.Valid := ⟨by decide, by decide, by decide⟩
  obtain ⟨_, _, e1, e2, _⟩ := td_group a a a
  obtain ⟨e, hv⟩ := tdNeg_exact ha
  have h1 : tdAdd a TD.zero = .ok a := by rw [tdAdd_exact ha hz (e1.symm ▸ ha), e1]
  exact ⟨h1, tdAdd_comm a _ ▸ h1, by rw [e, tdAdd_exact ha hv (e2.symm ▸ hz), e2]⟩

/-- Distributivity for the operators: `(a + b) * k = a * k + b * k` whenever every
intermediate duration is representable. -/
theorem tdMul_distrib {a b : TD} {k : Int} (ha : a.Valid) (hb : b.Valid) (hab : (a.add b).Valid)
    (hak : (TD.smul k a).Valid) (hbk : (TD.smul k b).Valid) (habk : (TD.smul k (a.add b)).Valid) :
    (tdAdd a b).bind (fun x => tdMul x k) =
      (tdMul a k).bind (fun x => (tdMul b k).bind fun y => tdAdd x y) := by
  have e := (td_scale_distrib a b k 0).1
  rw [tdAdd_exact ha hb hab, tdMul_exact ha hak, tdMul_exact hb hbk, Res.bind_ok, Res.bind_ok,
    Res.bind_ok, tdMul_exact hab habk, tdAdd_exact hak hbk (by rw [← e]; exact habk), e]

/-- **Round trip through the calendar time type.** Every time of day `0 ≤ t < 86400 s`
converts to a `NaiveTime` (`secs = t / 10⁹`, `frac = t % 10⁹`) and back to itself. -/
theorem time_cr_roundtrip (t : Int) (h : 0 ≤ t ∧ t < 86400000000000) :
    timeAsCr t = some (t / 1000000000, t % 1000000000) ∧
    (timeAsCr t).map timeFromCr = some t := by
  have e : timeAsCr t = some (t / 1000000000, t % 1000000000) := by
    have g1 : t / 1000000000 % 4294967296 = t / 1000000000 := by omega
    have g2 : t % 1000000000 % 4294967296 = t % 1000000000 := by omega
    have g3 : ¬ (t / 1000000000 ≥ 86400 ∨ t % 1000000000 ≥ 2000000000 ∨
        (t % 1000000000 ≥ 1000000000 ∧ t / 1000000000 % 60 ≠ 59)) := by omega
    simp only [timeAsCr, nsPerSec, Int.tdiv_eq_ediv_of_nonneg h.1, Int.tmod_eq_emod_of_nonneg h.1,
      two32, g1, g2, g3, if_false]
  refine ⟨e, ?_⟩
  rw [e, Option.map_some, timeFromCr, nsPerSec, Int.ediv_mul_add_emod]

/-- `Time::from_hms` of in-range components succeeds and gives `(h·3600 + m·60 + s)·10⁹`. -/
theorem time_from_hms (h m s : Int)
    (hh : 0 ≤ h ∧ h < 24) (hm : 0 ≤ m ∧ m < 60) (hs : 0 ≤ s ∧ s < 60) :
    timeFromHms h m s = .ok (todOf h m s 0) := by
  rw [timeFromHms, chk_ok (by omega), Res.bind_ok, chk_ok (by omega), Res.bind_ok,
    chk_ok (by omega), Res.bind_ok, chk_ok (by omega), Res.bind_ok, nsPerSec,
    chk_ok (by omega), todOf, Int.add_zero]

/-- **Components.** A time built by `from_hms_nano / _micro / _milli` (`k` = 1, 10³, 10⁶ ns per
sub-second unit) from in-range components reports exactly those components. -/
theorem time_components (k h m s f : Int)
    (hh : 0 ≤ h ∧ h < 24) (hm : 0 ≤ m ∧ m < 60) (hs : 0 ≤ s ∧ s < 60)
    (hf : 0 ≤ f * k ∧ f * k < 1000000000) :
    timeFromHmsSub k h m s f = .ok (todOf h m s (f * k)) ∧
    timeFields (todOf h m s (f * k)) = .ok (h, m, s, f * k) := by
  constructor
  · rw [timeFromHmsSub, time_from_hms h m s hh hm hs, Res.bind_ok, chk_ok (by omega), Res.bind_ok, todOf,
      Int.add_zero, chk_ok (by omega), todOf]
  · rw [timeFields, (time_cr_roundtrip _ (by unfold todOf; omega)).1]
    simp only [todOf, Res.ok.injEq, Prod.mk.injEq]
    omega

/-- `Time ± d` for a month-free `i64` duration is the exact sum or difference when that is an `i64` -/
theorem timeShift_fixed (neg : Bool) (t n r : Int) (hn : inI64 n = true)
    (hr : r = if neg then t - n else t + n) (hs : inI64 r = true) : timeShift neg t ⟨0, n⟩ = .ok r := by
  subst hr
  simp only [timeShift, td0_not_nat, Bool.not_false, if_true, ne_eq, not_true_eq_false, if_false, hn, chk, hs]

/-- **Exact shift.** `Time ± d` for a month-free duration moves the raw value by exactly
`d` nanoseconds, and the opposite operation undoes it. -/
theorem time_shift_exact (t n : Int) (ht : inI64 t = true) (hn : inI64 n = true)
    (hs : inI64 (t + n) = true) :
    timeShift false t ⟨0, n⟩ = .ok (t + n) ∧
    (timeShift false t ⟨0, n⟩).bind (fun r => timeShift true r ⟨0, n⟩) = .ok t := by
  have e : t + n - n = t := by omega
  have h1 := timeShift_fixed false t n (t + n) hn rfl hs
  exact ⟨h1, by rw [h1, Res.bind_ok, timeShift_fixed true (t + n) n t hn e.symm ht]⟩

/-- The same for subtraction first. -/
theorem time_shift_exact_sub (t n : Int) (ht : inI64 t = true) (hn : inI64 n = true)
    (hs : inI64 (t - n) = true) :
    timeShift true t ⟨0, n⟩ = .ok (t - n) ∧
    (timeShift true t ⟨0, n⟩).bind (fun r => timeShift false r ⟨0, n⟩) = .ok t := by
  have e : t - n + n = t := by omega
  have h1 := timeShift_fixed true t n (t - n) hn rfl hs
  exact ⟨h1, by rw [h1, Res.bind_ok, timeShift_fixed false (t - n) n t hn e.symm ht]⟩

/-! ### the model's calendar is consistent (shared with the C16 specification) -/

/-- the same body -/
theorem civilFromDays_eq (z : Int) : civilFromDays z = C16.Spec.civilFromDays z := rfl

/-- On months `1..=12` only: the model computes the March-based month number as `(m + 9) % 12`, the
specification by `if m > 2 then m - 3 else m + 9`. -/
theorem daysFromCivil_eq (y m d : Int) (h1 : 1 ≤ m) (h2 : m ≤ 12) :
    daysFromCivil y m d = C16.Spec.daysFromCivil y m d := by
  have e : (m + 9) % 12 = if m > 2 then m - 3 else m + 9 := by omega
  simp only [daysFromCivil, C16.Spec.daysFromCivil, e]

/-- the model's day-count and date functions round-trip for every day count -/
theorem calendar_roundtrip (z : Int) :
    daysFromCivil (civilFromDays z).1 (civilFromDays z).2.1 (civilFromDays z).2.2 = z := by
  rw [civilFromDays_eq]
  obtain ⟨h1, h2, _, _⟩ := C16.Spec.civilFromDays_range z
  rw [daysFromCivil_eq _ _ _ h1 h2]
  exact C16.Spec.daysFromCivil_civilFromDays z

/-- the same table; the leap rule is a `Bool` in the model and a `Prop` in the specification -/
theorem daysInMonth_eq (y m : Int) : daysInMonth y m = C16.Spec.daysInMonth y m := by
  have h : isLeap y = true ↔ C16.Spec.isLeapYear y := by
    simp only [isLeap, C16.Spec.isLeapYear, Bool.or_eq_true, Bool.and_eq_true, decide_eq_true_iff]
  simp only [daysInMonth, C16.Spec.daysInMonth, h]

/-- the model's date of the model's day count of a calendar date is that date -/
theorem calendar_roundtrip_date (y m d : Int) (h1 : 1 ≤ m) (h2 : m ≤ 12) (h3 : 1 ≤ d) (h4 : d ≤ daysInMonth y m) :
    civilFromDays (daysFromCivil y m d) = (y, m, d) := by
  rw [civilFromDays_eq, daysFromCivil_eq y m d h1 h2]
  exact C16.Spec.civilFromDays_daysFromCivil y m d ⟨h1, h2, h3, by rw [← daysInMonth_eq]; exact h4⟩

/-- **Truncation to a month-free duration.** For an instant `t = x·mult u` inside the `i64`
nanosecond range and a span `0 < n` (an `i64` number of nanoseconds), `duration_trunc` is the
value at the unit of `n·⌊t/n⌋`. -/
theorem trunc_fixed (u : TUnit) (x n : Int) (hx : x ≠ nat64) (hn : 0 < n) (hn64 : inI64 n = true)
    (ht : inI64 (x * u.mult) = true) :
    durationTrunc u x ⟨0, n⟩ = fromCr u (n * (x * u.mult / n)) := by
  simp only [durationTrunc, hx, if_false, asCr_of_inCr hx (inCr_of_inI64 ht), ne_eq, not_true_eq_false,
    chronoTrunc_eq _ _ hn hn64 ht, Res.bind_ok]

/-- `n·⌊t/n⌋` is **the greatest multiple of the duration not after the instant**. -/
theorem trunc_fixed_greatest (t n : Int) (hn : 0 < n) :
    n * (t / n) ≤ t ∧ n ∣ n * (t / n) ∧ ∀ k, n ∣ k → k ≤ t → k ≤ n * (t / n) :=
  ⟨(floor_mul_greatest t n hn).1, (floor_mul_greatest t n hn).2.2.1, (floor_mul_greatest t n hn).2.2.2⟩

/-- **truncation is idempotent and order preserving**: truncating the truncated instant to the same
span changes nothing, an earlier instant never truncates to a later one, and the truncated instant
lies less than one span before the instant -/
theorem trunc_fixed_idem_mono (s t n : Int) (hn : 0 < n) :
    n * ((n * (t / n)) / n) = n * (t / n) ∧
    (s ≤ t → n * (s / n) ≤ n * (t / n)) ∧
    t - n < n * (t / n) := by
  refine ⟨?_, ?_, ?_⟩
  · rw [Int.mul_ediv_cancel_left _ (Int.ne_of_gt hn)]
  · intro hst
    exact Int.mul_le_mul_of_nonneg_left (Int.ediv_le_ediv hn hst) (Int.le_of_lt hn)
  · have := (floor_mul_greatest t n hn).2.1
    omega

/-- When the span is a whole number of units the truncated value is exact: it denotes the
instant `n·⌊t/n⌋` itself (at nanosecond precision provided that instant is an `i64`). -/
theorem trunc_fixed_exact (u : TUnit) (x n : Int) (hx : x ≠ nat64) (hn : 0 < n)
    (hn64 : inI64 n = true) (ht : inI64 (x * u.mult) = true) (hdiv : u.mult ∣ n)
    (hr : inI64 (n * (x * u.mult / n)) = true) :
    ∃ r, durationTrunc u x ⟨0, n⟩ = .ok r ∧ r * u.mult = n * (x * u.mult / n) := by
  rw [trunc_fixed u x n hx hn hn64 ht]
  obtain ⟨k, rfl⟩ := hdiv
  generalize x * u.mult / (u.mult * k) = q at hr ⊢
  rw [Int.mul_assoc, Int.mul_comm] at hr ⊢
  exact ⟨k * q, fromCr_mul_of fun _ => hr, rfl⟩

/-- **Sharpness (finding F23).** On a coarse unit the result is the *floor to the unit* of the
greatest multiple, so for a span that is not a whole number of units it need not be a
multiple of the span: `x = 2 s` truncated to 1.5 s is `1 s`. -/
theorem trunc_fixed_coarse :
    durationTrunc .s 2 ⟨0, 1500000000⟩ = .ok 1 ∧ ¬ (1500000000 : Int) ∣ 1 * TUnit.s.mult :=
  ⟨by decide, by decide⟩

theorem civil_month_range (z : Int) : 1 ≤ (civilFromDays z).2.1 ∧ (civilFromDays z).2.1 ≤ 12 := by
  rw [civilFromDays_eq]
  exact ⟨(C16.Spec.civilFromDays_range z).1, (C16.Spec.civilFromDays_range z).2.1⟩

/-- **Truncation to whole months dividing 12.** With `(y, m, _)` the calendar date of the
instant, `duration_trunc(dm months)` is the first instant of month `1 + dm·⌊(m-1)/dm⌋` of year
`y`: the calendar month (`dm = 1`), quarter (3), half-year (6) or year (12) containing it. -/
theorem trunc_months (u : TUnit) (x dm : Int) (hx : DtOk u (x * u.mult)) (hdm : 0 < dm)
    (hd : 12 % dm = 0)
    (hy : crMinYear ≤ (civilFromDays (x * u.mult / nsPerDay)).1 ∧
      (civilFromDays (x * u.mult / nsPerDay)).1 ≤ crMaxYear) :
    durationTrunc u x ⟨dm, 0⟩ =
      fromCr u (daysFromCivil (civilFromDays (x * u.mult / nsPerDay)).1
        (1 + dm * (((civilFromDays (x * u.mult / nsPerDay)).2.1 - 1) / dm)) 1 * nsPerDay) := by
  obtain ⟨b1, b2⟩ := month_bucket (civilFromDays (x * u.mult / nsPerDay)).1 _ dm
    (civil_month_range (x * u.mult / nsPerDay)) hdm hd
  have hyr : ¬ ((civilFromDays (x * u.mult / nsPerDay)).1 < crMinYear ∨
      crMaxYear < (civilFromDays (x * u.mult / nsPerDay)).1) := by omega
  simp only [durationTrunc, ne_nat_of_DtOk hx, if_false, asCr_of_DtOk hx, ne_eq, Int.ne_of_gt hdm,
    not_false_eq_true, if_true, Int.not_lt.mpr (Int.le_of_lt hdm), b1, b2, hyr]

/-- The same statement against the from-scratch calendar of the specification: the result is
`Spec.firstInstant y m'` (days counted year by year and month by month). -/
theorem trunc_months_spec (u : TUnit) (x dm : Int) (hx : DtOk u (x * u.mult)) (hdm : 0 < dm)
    (hd : 12 % dm = 0)
    (hy : crMinYear ≤ (civilFromDays (x * u.mult / nsPerDay)).1 ∧
      (civilFromDays (x * u.mult / nsPerDay)).1 ≤ crMaxYear) :
    durationTrunc u x ⟨dm, 0⟩ =
      fromCr u (Spec.firstInstant (civilFromDays (x * u.mult / nsPerDay)).1
        (1 + dm * (((civilFromDays (x * u.mult / nsPerDay)).2.1 - 1) / dm))) := by
  obtain ⟨_, b2⟩ := month_bucket (civilFromDays (x * u.mult / nsPerDay)).1 _ dm
    (civil_month_range (x * u.mult / nsPerDay)) hdm hd
  rw [trunc_months u x dm hx hdm hd hy, Spec.firstInstant, dayNumber_eq _ _ _ (by omega)]
  rfl

/-- The month buckets for the four calendar periods, spelled out. -/
theorem trunc_months_periods (m : Int) (hm : 1 ≤ m ∧ m ≤ 12) :
    1 + 1 * ((m - 1) / 1) = m ∧
    (1 + 3 * ((m - 1) / 3) = if m ≤ 3 then 1 else if m ≤ 6 then 4 else if m ≤ 9 then 7 else 10) ∧
    (1 + 6 * ((m - 1) / 6) = if m ≤ 6 then 1 else 7) ∧
    1 + 12 * ((m - 1) / 12) = 1 := by
  omega

/-- **Finding F9 (repaired).** The pinned body of `duration_trunc` was wrong for every month
count: on 2023-05-15 14:30:45 it left the value unchanged for 1 month, returned 2023-03-15
14:30:45 for 3 months and 2022-12-15 14:30:45 for 1 year; the repaired code returns
2023-05-01, 2023-04-01 and 2023-01-01 00:00:00. -/
theorem trunc_months_pinned_wrong :
    durationTruncPinned .ns 1684161045000000000 ⟨1, 0⟩ = .ok 1684161045000000000 ∧
    durationTruncPinned .ns 1684161045000000000 ⟨3, 0⟩ = .ok 1678890645000000000 ∧
    durationTruncPinned .ns 1684161045000000000 ⟨12, 0⟩ = .ok 1671114645000000000 ∧
    durationTrunc .ns 1684161045000000000 ⟨1, 0⟩ = .ok 1682899200000000000 ∧
    durationTrunc .ns 1684161045000000000 ⟨3, 0⟩ = .ok 1680307200000000000 ∧
    durationTrunc .ns 1684161045000000000 ⟨12, 0⟩ = .ok 1672531200000000000 := by
  refine ⟨by decide, by decide, by decide, by decide, by decide, by decide⟩

/-- **End-of-month clamping.** Moving `(y, m, d)` by `k` months moves the month index
`12·y + (m-1)` by exactly `k`, yields a month in `1..12`, and keeps the day unless the target
month is shorter, in which case the day is the last day of that month; days up to 28 are
never changed. -/
theorem addMonths_clamp (y m d k : Int) :
    (addMonthsCivil (y, m, d) k).1 * 12 + ((addMonthsCivil (y, m, d) k).2.1 - 1) = y * 12 + (m - 1) + k ∧
    1 ≤ (addMonthsCivil (y, m, d) k).2.1 ∧ (addMonthsCivil (y, m, d) k).2.1 ≤ 12 ∧
    (addMonthsCivil (y, m, d) k).2.2 =
      min d (daysInMonth (addMonthsCivil (y, m, d) k).1 (addMonthsCivil (y, m, d) k).2.1) ∧
    (d ≤ 28 → (addMonthsCivil (y, m, d) k).2.2 = d) := by
  simp only [addMonthsCivil]
  refine ⟨by omega, by omega, by omega, trivial, ?_⟩
  intro hd
  have : 28 ≤ daysInMonth ((y * 12 + (m - 1) + k) / 12) ((y * 12 + (m - 1) + k) % 12 + 1) := by
    simp only [daysInMonth]; omega
  omega

/-- **Model = specification for month addition**: the closed form used by the calendar library
(`diff_months`) equals stepping month by month and clamping the day with the table of month
lengths. -/
theorem addMonths_eq_spec (y m d k : Int) (hm : 1 ≤ m ∧ m ≤ 12) :
    addMonthsCivil (y, m, d) k = Spec.addMonths (y, m, d) k := by
  have hym : (if k ≥ 0 then Spec.iter Spec.nextMonth k.toNat (y, m)
      else Spec.iter Spec.prevMonth (-k).toNat (y, m)) = ymOf (y * 12 + (m - 1) + k) := by
    rw [← ymOf_index y m hm]
    split
    · rw [iter_ymOf _ 1 nextMonth_ymOf]; congr 1; omega
    · rw [iter_ymOf _ (-1) prevMonth_ymOf]; congr 1; omega
  have key : ∀ t : Int, 1 ≤ t % 12 + 1 ∧ t % 12 + 1 ≤ 12 := fun t => by omega
  simp only [addMonthsCivil, Spec.addMonths, hym, ymOf, monthLen_eq _ _ (key _)]
  ext
  · rfl
  · rfl
  · simp only; omega

/-- **`x + (k months, n ns)`**: the date part of the instant moves by `k` calendar months
(clamped), the time of day is kept, then the fixed part is added and the result is floored to
the unit. -/
theorem dtAdd_months (u : TUnit) (x k n : Int) (hx : DtOk u (x * u.mult)) (hk0 : k ≠ 0)
    (hk : i32Min < k)
    (hidx : inI32 ((civilFromDays (x * u.mult / nsPerDay)).1 * 12 +
      ((civilFromDays (x * u.mult / nsPerDay)).2.1 - 1) + k) = true)
    (hy : crMinYear ≤ (addMonthsCivil (civilFromDays (x * u.mult / nsPerDay)) k).1 ∧
      (addMonthsCivil (civilFromDays (x * u.mult / nsPerDay)) k).1 ≤ crMaxYear)
    (hr : DtOk u (daysFromCivil (addMonthsCivil (civilFromDays (x * u.mult / nsPerDay)) k).1
      (addMonthsCivil (civilFromDays (x * u.mult / nsPerDay)) k).2.1
      (addMonthsCivil (civilFromDays (x * u.mult / nsPerDay)) k).2.2 * nsPerDay
      + x * u.mult % nsPerDay + n)) :
    dtAdd u x ⟨k, n⟩ = .ok ((daysFromCivil (addMonthsCivil (civilFromDays (x * u.mult / nsPerDay)) k).1
      (addMonthsCivil (civilFromDays (x * u.mult / nsPerDay)) k).2.1
      (addMonthsCivil (civilFromDays (x * u.mult / nsPerDay)) k).2.2 * nsPerDay
      + x * u.mult % nsPerDay + n) / u.mult) := by
  have hnat : (TD.mk k n).isNat = false := by
    simp only [TD.isNat, decide_eq_false_iff_not]; exact Int.ne_of_gt hk
  have hyr : ¬ ((addMonthsCivil (civilFromDays (x * u.mult / nsPerDay)) k).1 < crMinYear ∨
      crMaxYear < (addMonthsCivil (civilFromDays (x * u.mult / nsPerDay)) k).1) := by omega
  rw [dtAdd_of_ok hx hnat]
  simp only [addMonthsCr, hk0, if_false, hidx, Bool.not_true, Bool.false_eq_true, hyr, Res.bind_ok,
    addDurCr_ok hr.1, fromCr_of_DtOk hr]

/-- The time constants (tea-time/src/convert.rs) and NaT markers (`nat()` constructors) that the
translator extracts from the sources on every run are the ones the model is built from:
`TUnit.mult`, `nsPerSec`, `nsPerDay`, the `3600 / 60` of `from_hms`, `nat64 = i64::MIN`,
`TD.nat.months = i32::MIN`. -/
theorem consts_matches :
    Generated.c17TimeConsts =
      [("NANOS_PER_MICRO", TUnit.us.mult), ("NANOS_PER_MILLI", TUnit.ms.mult),
       ("NANOS_PER_SEC", nsPerSec), ("MICROS_PER_MILLI", TUnit.ms.mult / TUnit.us.mult),
       ("MICROS_PER_SEC", TUnit.s.mult / TUnit.us.mult), ("MILLIS_PER_SEC", TUnit.s.mult / TUnit.ms.mult),
       ("SECS_PER_MINUTE", 60), ("SECS_PER_HOUR", 3600), ("SECS_PER_DAY", nsPerDay / nsPerSec),
       ("SECS_PER_WEEK", 7 * (nsPerDay / nsPerSec))] ∧
    Generated.c17NatMarkers = [("DateTime", "i64::MIN"), ("Time", "i64::MIN"), ("TimeDelta", "i32::MIN")] ∧
    nat64 = -2 ^ 63 ∧ TD.nat.months = -2 ^ 31 := by
  refine ⟨by decide +kernel, by decide, by decide, by decide⟩

/-! ### non-vacuity: the hypotheses are satisfiable on concrete, non-trivial inputs -/

/-- 2023-05-15 14:30:45 at second precision, plus / minus 90 minutes -/
example : DtOk .s (1684161045 * TUnit.s.mult) ∧ DtOk .s (1684161045 * TUnit.s.mult + 5400000000000) ∧
    TUnit.s.mult ∣ 5400000000000 ∧
    (dtAdd .s 1684161045 ⟨0, 5400000000000⟩).bind (fun y => dtSub .s y ⟨0, 5400000000000⟩) = .ok 1684161045 := by
  refine ⟨⟨by decide, by decide⟩, ⟨by decide, by decide⟩, by decide, by decide⟩

/-- F23 on a concrete input: 5 s + 1 ns − 1 ns = 4 s -/
example : (dtAdd .s 5 ⟨0, 1⟩).bind (fun y => dtSub .s y ⟨0, 1⟩) = .ok 4 := by decide

/-- a date-time before 1970 and one after, millisecond precision -/
example : (dtDiff .ms (-86400001) 1684161045123).bind (fun d => dtAdd .ms 1684161045123 d) = .ok (-86400001) ∧
    dtDiff .ms (-86400001) 1684161045123 = .ok ⟨0, -1684247445124000000⟩ := by
  refine ⟨by decide, by decide⟩

/-- valid durations with months of both signs -/
example : (TD.mk 14 (-86400000000000)).Valid ∧ (TD.mk (-25) 1500000000).Valid ∧
    tdAdd ⟨14, -86400000000000⟩ ⟨-25, 1500000000⟩ = .ok ⟨-11, -86398500000000⟩ ∧
    tdMul ⟨14, -86400000000000⟩ (-3) = .ok ⟨-42, 259200000000000⟩ := by
  refine ⟨⟨by decide, by decide, by decide⟩, ⟨by decide, by decide, by decide⟩, by decide, by decide⟩

/-- 12:34:56.000000789 -/
example : timeFromHmsSub 1 12 34 56 789 = .ok 45296000000789 ∧
    timeFields 45296000000789 = .ok (12, 34, 56, 789) ∧
    (timeAsCr 45296000000789).map timeFromCr = some 45296000000789 := by
  refine ⟨by decide, by decide, by decide⟩

/-- truncation to one hour before 1970 rounds toward the past; a quarter; end-of-month clamping -/
example : durationTrunc .s (-1) ⟨0, 3600000000000⟩ = .ok (-3600) ∧
    durationTrunc .s 1684161045 ⟨3, 0⟩ = .ok 1680307200 ∧
    dtAdd .s 1675123200 ⟨1, 0⟩ = .ok 1677542400 ∧
    addMonthsCivil (2023, 1, 31) 1 = (2023, 2, 28) ∧ addMonthsCivil (2024, 1, 31) 1 = (2024, 2, 29) ∧
    addMonthsCivil (2023, 3, 31) (-13) = (2022, 2, 28) := by
  refine ⟨by decide, by decide, by decide, by decide, by decide, by decide⟩

/-- hypotheses of `trunc_months` on 2023-05-15 14:30:45 ns -/
example : DtOk .ns (1684161045000000000 * TUnit.ns.mult) ∧
    civilFromDays (1684161045000000000 * TUnit.ns.mult / nsPerDay) = (2023, 5, 15) := by
  refine ⟨⟨by decide, fun _ => ⟨by decide, by decide⟩⟩, by decide⟩

end Tv.C17
