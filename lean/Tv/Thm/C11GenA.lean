import Tv.GenAgg
import Tv.Lemmas.GenSim
import Tv.Thm.C11
/-!
# C11 (part A) — the moment aggregations regenerated from agg.rs (`vsum`, `vmean`, `vmean_var`,
`vvar`, `vstd`, `vskew`) agree with the model

Separate from `C11Gen.lean` so that `C04Gen.lean` (the residual closures call `vmean` / `vstd` /
`vskew`) depends on exactly these and not on the other aggregations.

Every proof has two steps.  The loop: the generated closure threads a tuple, the model folds a
structure (`Pow`, `Pair`, `ArgSt`), the tuple is a projection of the structure and one step
commutes with the projection, so the two folds agree (`foldl_proj`).  The branches: the
generated `if decide c then … else …` is compared with the model's `if c then … else …` guard by
guard (`ite_rel`).
-/
namespace Tv.C11Gen
open Tv Tv.GenSim Tv.C11

-- not `rfl`: as a `dsimp` lemma it would rewrite under the `Decidable` instances of the guards
theorem eps_eq : GenAgg.EPS = C11.EPS := by rw [GenAgg.EPS, C11.EPS]

/-- the prelude's reading of `vfold` is the model's -/
theorem gen_vfold_eq {σ : Type} (f : σ → Rat → σ) (init : σ) (xs : List (Option Rat)) :
    Gen.vfold f init xs = C11.vfold f init xs := by
  unfold Gen.vfold C11.vfold
  congr 1
  funext p v
  cases v <;> rfl

/-- `vfold_n` is `vfold` with a closure that also counts, in the prelude and in the model -/
theorem gen_vfoldN_eq {σ : Type} (f : σ → Rat → σ) (init : σ) (xs : List (Option Rat)) :
    Gen.vfoldN f init xs = C11.vfoldN f init xs :=
  gen_vfold_eq (fun p x => (p.1 + 1, f p.2 x)) (0, init) xs

/-- `List.foldl_hom` for a loop whose initial value is written out: the generated closure threads a
tuple, the model folds a structure, `π` reads the tuple off the structure -/
theorem foldl_proj {σ τ β : Type} (π : τ → σ) (step : τ → β → τ) (z : τ) {L : σ → β → σ} {z' : σ}
    (hz : z' = π z) (hL : ∀ s p, L (π s) p = π (step s p)) {l : List β} :
    List.foldl L z' l = π (l.foldl step z) :=
  hz ▸ List.foldl_hom π hL

/-- a generated guard `if b` (a `decide`, or a conjunction of them) against the model's `if c`:
related results in both branches give related results -/
theorem ite_rel {α β : Type} (R : α → β → Prop) {b : Bool} {c : Prop} [Decidable c] (hc : b = true ↔ c)
    {x x' : α} {y y' : β} (hp : c → R x y) (hn : ¬c → R x' y') :
    R (if b = true then x else x') (if c then y else y') := by
  by_cases h : c
  · rw [if_pos (hc.mpr h), if_pos h]; exact hp h
  · rw [if_neg (mt hc.mp h), if_neg h]; exact hn h

theorem vsum_agree (sqrt : Rat → Rat) (xs : List (Option Rat)) :
    Agree sqrt (GenAgg.vsum.run sqrt xs) (C11.vsum xs) := by
  rw [GenAgg.vsum.run, gen_vfoldN_eq]
  exact ite_rel _ decide_eq_true_iff (fun _ => rfl) (fun _ => rfl)

theorem vmean_agree (sqrt : Rat → Rat) (xs : List (Option Rat)) :
    Agree sqrt (GenAgg.vmean.run sqrt xs) (C11.vmean xs) := by
  rw [GenAgg.vmean.run, gen_vfoldN_eq]
  exact ite_rel _ decide_eq_true_iff (fun _ => rfl) (fun _ => rfl)

def Agree2 (sqrt : Rat → Rat) (o : Option Rat × Option Rat) (t : Out × Out) : Prop :=
  Agree sqrt o.1 t.1 ∧ Agree sqrt o.2 t.2

/-- a `vapply_n` closure that accumulates `Σv, Σv²` computes the model's power sums -/
theorem vapplyN_pow2 (f : Rat × Rat → Rat → Rat × Rat) (hf : ∀ a b v, f (a, b) v = (a + v, b + v * v))
    (xs : List (Option Rat)) :
    Gen.vapplyN f (0, 0) xs = (((pows xs).s1, (pows xs).s2), (pows xs).n) :=
  foldl_proj (fun s : Pow => ((s.s1, s.s2), s.n)) Pow.step Pow.zero rfl fun s v => by
    cases v with
    | none => rfl
    | some x => exact congrArg (·, s.n + 1) (hf _ _ x)

theorem vapplyN_pow3 (f : Rat × Rat × Rat → Rat → Rat × Rat × Rat)
    (hf : ∀ a b c v, f (a, b, c) v = (a + v, b + v * v, c + v * v * v))
    (xs : List (Option Rat)) :
    Gen.vapplyN f (0, 0, 0) xs = (((pows xs).s1, (pows xs).s2, (pows xs).s3), (pows xs).n) :=
  foldl_proj (fun s : Pow => ((s.s1, s.s2, s.s3), s.n)) Pow.step Pow.zero rfl fun s v => by
    cases v with
    | none => rfl
    | some x => exact congrArg (·, s.n + 1) (hf _ _ _ x)

/-- the generated variance `m2/n - (m1/n)^2` is the model's `pvar` -/
theorem pvar_eq (s : Pow) : s.s2 / s.n - (s.s1 / s.n) ^ 2 = s.pvar := by rw [sq]; rfl

theorem agree_div (sqrt : Rat → Rat) (a b : Rat) : Agree sqrt (some (a / b)) (Out.div a b) := by
  unfold Out.div
  split
  · trivial
  · rfl

theorem vmean_var_agree (sqrt : Rat → Rat) (xs : List (Option Rat)) (mp : Nat) :
    Agree2 sqrt (GenAgg.vmean_var.run sqrt xs mp) (C11.vmeanVar mp xs) := by
  unfold GenAgg.vmean_var.run C11.vmeanVar
  dsimp only
  rw [vapplyN_pow2 _ (fun a b v => rfl) xs]
  generalize pows xs = s
  dsimp only
  rw [pvar_eq]
  exact ite_rel _ decide_eq_true_iff (fun _ => ⟨rfl, rfl⟩) fun _ =>
    ite_rel _ decide_eq_true_iff (fun _ => ⟨agree_div .., rfl⟩) fun _ =>
      ite_rel _ decide_eq_true_iff (fun _ => ⟨agree_div .., rfl⟩) fun _ => ⟨agree_div .., rfl⟩

theorem vvar_agree (sqrt : Rat → Rat) (xs : List (Option Rat)) (mp : Nat) :
    Agree sqrt (GenAgg.vvar.run sqrt xs mp) (C11.vvar mp xs) :=
  (vmean_var_agree sqrt xs mp).2

/-- `vstd` maps `sqrt` over the generated option while the model applies `sqrtOut`, the identity on
`.root`: the two agree because `vvar` never returns `.root` -/
theorem vvar_not_root (mp : Nat) (xs : List (Option Rat)) (sg : Int) (q : Rat) : C11.vvar mp xs ≠ .root sg q := by
  unfold C11.vvar C11.vmeanVar
  dsimp only
  simp only [apply_ite Prod.snd]
  exact ite_ne nofun (ite_ne nofun (ite_ne nofun nofun))

theorem vstd_agree (sqrt : Rat → Rat) (xs : List (Option Rat)) (mp : Nat) :
    Agree sqrt (GenAgg.vstd.run sqrt xs mp) (C11.vstd mp xs) := by
  have h := vvar_agree sqrt xs mp
  have hr := vvar_not_root mp xs
  rw [GenAgg.vstd.run, C11.vstd]
  generalize GenAgg.vvar.run sqrt xs mp = o at h ⊢
  generalize C11.vvar mp xs = t at h hr ⊢
  cases t with
  | null => exact congrArg (Option.map sqrt) h
  | val q => exact (congrArg (Option.map sqrt) h).trans (congrArg some (by rw [Int.cast_one, one_mul]))
  | root sg q => exact absurd rfl (hr sg q)
  | degen => trivial

/-- mask agreement: the generated result is the NaN literal exactly where the model is null -/
def AgreeMask (o : Option Rat) (t : Out) : Prop := t = .null ↔ o = none

/-- `vskew`: the closed form is rewritten under the root sign in the model and its zero test
(`res != 0.`) is a statement about `sqrt`; proved here: the result is NaN exactly below
`max(min_periods, 3)` valid elements (values: correspondence run) -/
theorem vskew_mask (sqrt : Rat → Rat) (xs : List (Option Rat)) (mp : Nat) :
    AgreeMask (GenAgg.vskew.run sqrt xs mp) (C11.vskew mp xs) := by
  unfold GenAgg.vskew.run C11.vskew
  dsimp only
  rw [vapplyN_pow3 _ (fun a b c v => rfl) xs]
  generalize pows xs = s
  dsimp only
  rw [pvar_eq, eps_eq]
  refine ite_rel _ decide_eq_true_iff (fun _ => ⟨fun _ => rfl, fun _ => rfl⟩) fun _ => ?_
  by_cases h2 : s.n ≥ 3
  · rw [if_pos (decide_eq_true h2), if_pos h2]
    dsimp only
    -- neither side is null: the model by its constructors, the generated result guard by guard
    refine ⟨fun h => absurd h (ite_ne nofun (ite_ne nofun nofun)), fun h => absurd h ?_⟩
    by_cases h3 : s.pvar ≤ EPS
    · rw [if_pos (decide_eq_true h3)]
      exact ite_ne nofun nofun
    · rw [if_neg (mt of_decide_eq_true h3)]
      exact ite_ne nofun nofun
  · rw [if_neg (mt of_decide_eq_true h2), if_neg h2]
    exact ⟨fun _ => rfl, fun _ => rfl⟩

end Tv.C11Gen
