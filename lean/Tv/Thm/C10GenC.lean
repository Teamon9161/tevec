import Tv.GenReads
import Tv.Thm.C10Gen
set_option linter.unusedSimpArgs false
set_option linter.unusedVariables false
/-!
# C10 — the unchecked element accesses inside the rolling closures, regenerated from source

`Tv.GenReads` (translator/reads.py) lists, for every rolling kernel whose closure calls an unchecked
accessor (`ts_vargmin`, `ts_vmin`, `ts_vargmax`, `ts_vmax`, `ts_vrank` in cmp.rs, `ts_vminmaxnorm`
in norm.rs, `ts_vregx_resid_mean / _std / _skew` in reg.rs: 30 sites), every index one invocation of
the closure with the driver's arguments `(start, end)` can pass to `uget` — conditions dropped, so
this is a superset of the accesses of any execution. `reads_le_end` proves each of them `≤ end`
whenever `start ≤ end`; `idx_calls_ok` / `idx2_calls_ok` prove that the regenerated drivers
(`GenDrv.rolling_apply_idx_to`, `rolling2_apply_idx_to`) only ever call the closure with
`start ≤ end < len` (and `end < len2` for the second series); `kernel_reads_in_bounds` /
`kernel2_reads_in_bounds` compose the two: for every series length, window ≥ 1 and call of the
driver, every index a listed kernel can hand to `uget` is inside the series (both series).
-/
namespace Tv.C10GenC
open Tv

def CallOk (start : Option Nat) (e : Nat) : Prop := ∀ s, start = some s → s ≤ e

theorem reads_le_end : ∀ f ∈ GenReads.all, ∀ (start : Option Nat) (e : Nat), CallOk start e →
    ∀ i ∈ f.2 start e, i ≤ e := by
  intro f hf start e hc i hi
  -- every listed index is `start.getD 0` itself or lies in a `range'` from it of length at most
  -- `e + 1 - start.getD 0`, hence is `≤ e` once `start ≤ e`; `simp` spells the membership out
  simp only [GenReads.all, List.mem_cons, List.mem_nil_iff, or_false] at hf
  cases start with
  | none =>
    rcases hf with h | h | h | h | h | h | h | h | h <;> subst h <;>
      simp [GenReads.ts_vargmin.reads, GenReads.ts_vmin.reads, GenReads.ts_vargmax.reads,
        GenReads.ts_vmax.reads, GenReads.ts_vrank.reads, GenReads.ts_vminmaxnorm.reads,
        GenReads.ts_vregx_resid_mean.reads, GenReads.ts_vregx_resid_std.reads,
        GenReads.ts_vregx_resid_skew.reads, List.mem_flatMap, List.mem_range'_1] at hi <;> omega
  | some s =>
    have hs : s ≤ e := hc s rfl
    rcases hf with h | h | h | h | h | h | h | h | h <;> subst h <;>
      simp [GenReads.ts_vargmin.reads, GenReads.ts_vmin.reads, GenReads.ts_vargmax.reads,
        GenReads.ts_vmax.reads, GenReads.ts_vrank.reads, GenReads.ts_vminmaxnorm.reads,
        GenReads.ts_vregx_resid_mean.reads, GenReads.ts_vregx_resid_std.reads,
        GenReads.ts_vregx_resid_skew.reads, List.mem_flatMap, List.mem_range'_1] at hi <;> omega

/-- the calls of the regenerated one-series index driver: `start ≤ end < len` -/
theorem idx_calls_ok (len w : Nat) (hw : 1 ≤ w) :
    ∃ log, GenDrv.rolling_apply_idx_to.run len w = some log ∧
      ∀ ev ∈ log, ev.2.2.1 < len ∧ CallOk ev.2.1 ev.2.2.1 := by
  refine ⟨_, C02Gen.rolling_apply_idx_to_eq len w (Or.inl hw), ?_⟩
  rw [toIdx_eq len w hw]
  intro ev hev
  simp only [List.map_map, List.mem_map, List.mem_range, Function.comp_def] at hev
  obtain ⟨i, hi, rfl⟩ := hev
  refine ⟨hi, ?_⟩
  intro s hs
  exact startAt_le hs

theorem idx2_calls_ok (len len2 w : Nat) (hw : 1 ≤ w) (h2 : len ≤ len2) :
    ∃ log, GenDrv.rolling2_apply_idx_to.run len len2 w = some log ∧
      ∀ ev ∈ log, ev.2.2.1 < len ∧ ev.2.2.1 < len2 ∧ CallOk ev.2.1 ev.2.2.1 := by
  refine ⟨_, C02Gen.rolling2_apply_idx_to_eq len len2 w (Or.inl hw) h2, ?_⟩
  rw [toIdx_eq len w hw]
  intro ev hev
  simp only [List.map_map, List.mem_map, List.mem_range, Function.comp_def] at hev
  obtain ⟨i, hi, rfl⟩ := hev
  refine ⟨hi, Nat.lt_of_lt_of_le hi h2, ?_⟩
  intro s hs
  exact startAt_le hs

/-- composition: every index a listed kernel can pass to `uget` during a run of the one-series
index driver lies inside the series (`driver` does not select: the bound holds for every listed
read set under either driver) -/
theorem kernel_reads_in_bounds (len w : Nat) (hw : 1 ≤ w) :
    ∃ log, GenDrv.rolling_apply_idx_to.run len w = some log ∧
      ∀ f ∈ GenReads.all, ∀ ev ∈ log, ∀ i ∈ f.2 ev.2.1 ev.2.2.1, i < len := by
  obtain ⟨log, hrun, hlog⟩ := idx_calls_ok len w hw
  refine ⟨log, hrun, ?_⟩
  intro f hf ev hev i hi
  obtain ⟨h1, h2⟩ := hlog ev hev
  have := reads_le_end f hf _ _ h2 i hi
  omega

/-- … and of the two-series driver: inside both series -/
theorem kernel2_reads_in_bounds (len len2 w : Nat) (hw : 1 ≤ w) (h2 : len ≤ len2) :
    ∃ log, GenDrv.rolling2_apply_idx_to.run len len2 w = some log ∧
      ∀ f ∈ GenReads.all, ∀ ev ∈ log, ∀ i ∈ f.2 ev.2.1 ev.2.2.1, i < len ∧ i < len2 := by
  obtain ⟨log, hrun, hlog⟩ := idx2_calls_ok len len2 w hw h2
  refine ⟨log, hrun, ?_⟩
  intro f hf ev hev i hi
  obtain ⟨h1, h3, h4⟩ := hlog ev hev
  have := reads_le_end f hf _ _ h4 i hi
  omega

/-- the scan covers every accessor call of the rolling crates: 30 sites in 9 kernels, none outside
a listed closure, nothing refused -/
theorem reads_present : GenReads.parsed = true ∧ GenReads.census = GenReads.totalSites ∧
    GenReads.all.map (·.1) = ["ts_vargmin", "ts_vmin", "ts_vargmax", "ts_vmax", "ts_vrank",
      "ts_vminmaxnorm", "ts_vregx_resid_mean", "ts_vregx_resid_std", "ts_vregx_resid_skew"] ∧
    GenReads.ts_vrank.driver = "rolling_apply_idx" ∧
    GenReads.ts_vregx_resid_std.driver = "rolling2_apply_idx" := ⟨rfl, rfl, rfl, rfl, rfl⟩

/-- non-vacuity: a full window `(some 2, 5)` of `ts_vmax` touches 2, 2..=5 and 2 again -/
example : GenReads.ts_vmax.reads (some 2) 5 = [2, 2, 3, 4, 5, 2] := by decide

end Tv.C10GenC
