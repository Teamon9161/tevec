import Tv.GenQuant
import Tv.Thm.C11Gen
import Tv.Thm.C12
/-!
# C12 — `vquantile` regenerated from tea-agg/src/vec_valid.rs is the model's

`Tv.GenQuant.vquantile.run` (translator/quant.py) is the body of `vquantile` in source order, in
continuation-passing style (the early `return`s inside the tuple-valued `if`, the statement `match`
with a fall-through arm), over the abstract contract `S : C12.Std` of std's selection, calling the
aggregations regenerated by aggs.py (`count_valid`, `vfirst`, `vmax`, `vmin`). `vquantile_eq` proves
it equal to `Tv.C12.vquantile` for every `S`, series, `q` and method; the order-statistic theorems of
`Tv/Thm/C12.lean` (`quantile_exact`, `quantile_null_iff`, `median_eq`, …) are therefore theorems about the code in the
tree, and an edit of `vquantile` breaks this module before any input is run.
-/
namespace Tv.C12GenA
open Tv Tv.C12 Tv.Gen

theorem count_valid_len (xs : List (Option Rat)) :
    GenAgg.count_valid.run (fun x => x) xs = (valid xs).length := by
  rw [C11Gen.count_valid_eq, C11.count_valid_exact]; rfl

theorem vfirst_head (xs : List (Option Rat)) :
    GenAgg.vfirst.run (fun x => x) xs = ((valid xs).head?).map some := by
  rw [C11Gen.vfirst_eq, C11.vfirst_exact]; rfl

theorem vmax_vmaxE (l : List (Option Rat)) : GenAgg.vmax.run (fun x => x) l = vmaxE l := by
  rw [C11Gen.vmax_eq]
  unfold C11.vmax vmaxE
  rw [C11.vfold_eq]
  congr 1

theorem vmin_vminE (l : List (Option Rat)) : GenAgg.vmin.run (fun x => x) l = vminE l := by
  rw [C11Gen.vmin_eq]
  unfold C11.vmin vminE
  rw [C11.vfold_eq]
  congr 1

/-- the final `match method` of the regenerated code is `qFinish` -/
theorem finish_eq (len1 q : Rat) (i j : Nat) (vi vj : Option Rat) (m : QMethod) :
    (match m with
      | .linear =>
        (Res.ok (toOut (lift2 (· + ·) vi (lift2 (· * ·) (lift2 (· - ·) vj vi)
          (some ((q - ((i : Nat) : Rat) / len1) / (((j : Nat) : Rat) / len1 - ((i : Nat) : Rat) / len1)))))))
      | .lower => Res.ok (toOut vi)
      | .higher => Res.ok (toOut vj)
      | .midpoint => Res.ok (toOut (lift2 (· / ·) (lift2 (· + ·) vi vj) (some (2 : Rat))))) =
    Res.ok (toOut (qFinish len1 q i j vi vj m)) := by
  cases m <;> cases vi <;> cases vj <;> simp [qFinish, lift2, map2]

/-- two continuations of a selection agree when they agree on every selected head and element -/
theorem select_congr {β : Type} (o : Option (List Elem × Elem × List Elem)) (d : β)
    (f g : List Elem → Elem → β) (h : ∀ hd m, f hd m = g hd m) :
    (match o with | none => d | some (hd, m, _) => f hd m) =
      (match o with | none => d | some (hd, m, _) => g hd m) := by
  rcases o with _ | ⟨hd, m, tl⟩
  · rfl
  · exact h hd m

theorem vquantile_eq (S : Std) (xs : List (Option Rat)) (q : Rat) (m : QMethod) :
    GenQuant.vquantile.run S xs q m = C12.vquantile S xs q m := by
  unfold GenQuant.vquantile.run C12.vquantile
  simp only [count_valid_len, vfirst_head, vmax_vmaxE, vmin_vminE]
  by_cases hq : 0 ≤ q ∧ q ≤ 1
  · simp only [hq]
    by_cases h0 : (valid xs).length = 0
    · simp [h0, toOut]
    · by_cases h1 : (valid xs).length = 1
      · obtain ⟨v, hv⟩ := List.length_eq_one_iff.mp h1
        simp [hv]
      · have h2 : 1 ≤ (valid xs).length := by omega
        simp only [h0, h1, h2, decide_false, decide_true, Bool.false_eq_true, if_false, if_true]
        by_cases hh : q ≤ 1 / 2
        · simp only [hh, decide_true, if_true]
          refine select_congr _ _ _ _ (fun head mm => ?_)
          by_cases hij : ((((valid xs).length - 1 : Nat) : Rat) * q).floor.toNat ≠
              ((((valid xs).length - 1 : Nat) : Rat) * q).ceil.toNat
          · simp only [hij, decide_true, if_true, ne_eq, not_false_eq_true]
            exact finish_eq _ _ _ _ _ _ _
          · simp [hij]
        · simp only [hh, decide_false, Bool.false_eq_true, if_false]
          refine select_congr _ _ _ _ (fun head mm => ?_)
          by_cases hij : ((((valid xs).length - 1 : Nat) : Rat) * (1 - q)).floor.toNat ≠
              ((((valid xs).length - 1 : Nat) : Rat) * (1 - q)).ceil.toNat
          · simp only [hij, decide_true, if_true, ne_eq, not_false_eq_true]
            cases m
            · exact finish_eq _ _ _ _ _ _ .linear
            · rfl
            · rfl
            · exact finish_eq _ _ _ _ _ _ .midpoint
          · simp [hij]
  · have hq' : (decide (q ≥ (0 : Rat)) && decide (q ≤ (1 : Rat))) = false := by
      by_cases a : 0 ≤ q
      · have : ¬ q ≤ 1 := fun b => hq ⟨a, b⟩
        simp [a, this]
      · simp [a]
    simp [hq', hq]

/-- **from source**: the regenerated `vquantile` returns the value at fractional index `(n-1)·q` of
the sorted non-null elements under the requested interpolation, whatever permutation std's
`select_nth_unstable_by` produces (contract `S.Ok`) -/
theorem vquantile_from_source {S : Std} (hS : S.Ok) (xs : List (Option Rat)) (q : Rat) (m : QMethod)
    (h0 : 0 ≤ q) (h1 : q ≤ 1) :
    GenQuant.vquantile.run S xs q m = .ok (Spec.quantile xs q (toInterp m)) := by
  rw [vquantile_eq]; exact quantile_exact hS xs q m h0 h1

/-- … is null only when there is no valid element … -/
theorem vquantile_null_iff_from_source {S : Std} (hS : S.Ok) (xs : List (Option Rat)) (q : Rat) (m : QMethod)
    (h0 : 0 ≤ q) (h1 : q ≤ 1) :
    GenQuant.vquantile.run S xs q m = .ok .null ↔ (valid xs).length = 0 := by
  rw [vquantile_eq]; exact quantile_null_iff hS xs q m h0 h1

/-- … and rejects `q` outside `[0, 1]` with an error -/
theorem vquantile_err_from_source (S : Std) (xs : List (Option Rat)) (q : Rat) (m : QMethod)
    (h : ¬ (0 ≤ q ∧ q ≤ 1)) : GenQuant.vquantile.run S xs q m = .err := by
  rw [vquantile_eq]; exact quantile_err S xs q m h

/-- `vmedian` is `vquantile(0.5, Linear).unwrap()` in the tree (text of its body) and the median -/
theorem vmedian_from_source {S : Std} (hS : S.Ok) (xs : List (Option Rat)) :
    GenQuant.vquantile.run S xs (1 / 2) .linear = .ok (Spec.median xs) := by
  rw [vquantile_eq]; exact median_eq hS xs

theorem vquantile_present :
    GenQuant.vquantile.parsed = true ∧ GenQuant.vquantile.selects = 2 ∧ GenQuant.vquantile.ensures = 1 ∧
    GenQuant.vmedianBody = "{self.vquantile(0.5,QuantileMethod::Linear).unwrap()}" := ⟨rfl, rfl, rfl, rfl⟩

end Tv.C12GenA
