import Tv.GenAgg
import Tv.Model.Basic
import Tv.Spec.C04
import Tv.Thm.C12GenA
/-!
# C08 — nulls are transparent to the aggregations regenerated from agg.rs

For the functions of `GenAgg.lean` (regenerated from tea-core/src/agg.rs on every run): the result
is a function of the non-null elements in order (resp. of the pairwise-complete pairs) only — two
inputs with the same non-null elements give the **same** result, whatever the number and the
positions of their nulls, and whichever encoding (NaN / `None`) produced them (both are `none`
here; the encodings are the subject of `C08.decode_*`).  The proofs use only the structure of the
regenerated code (it reaches the data through `vapply_n` / `vfold_n` / `vfold` / a pairwise
`not_none` guard), not its closed forms.
-/
namespace Tv.C08Gen
open Tv

/-- `vfold` sees only the non-null elements -/
theorem vfold_valid {σ : Type} (f : σ → Rat → σ) (init : σ) (xs : List (Option Rat)) :
    Gen.vfold f init xs = (valid xs).foldl f init :=
  (C11Gen.gen_vfold_eq f init xs).trans (C11.vfold_eq f init xs)

theorem vfoldN_valid {σ : Type} (f : σ → Rat → σ) (init : σ) (xs : List (Option Rat)) :
    Gen.vfoldN f init xs = ((valid xs).length, (valid xs).foldl f init) :=
  (C11Gen.gen_vfoldN_eq f init xs).trans (C11.vfoldN_eq f init xs)

/-- `vapply_n` is `vfold_n` with the two components swapped -/
theorem vapplyN_valid {σ : Type} (f : σ → Rat → σ) (init : σ) (xs : List (Option Rat)) :
    Gen.vapplyN f init xs = ((valid xs).foldl f init, (valid xs).length) :=
  have e : Gen.vapplyN f init xs = (Gen.vfoldN f init xs).swap :=
    List.foldl_hom Prod.swap (init := (0, init)) fun p v => by cases v <;> rfl
  e.trans (congrArg Prod.swap (vfoldN_valid f init xs))

/-! In each proof `simp` runs with reduction switched off: it only rewrites the loop, which sits under
the binders of its initial values, and leaves the rest of the body as it is. -/

theorem vsum_nulls (sqrt : Rat → Rat) (xs ys : List (Option Rat)) (h : valid xs = valid ys) :
    GenAgg.vsum.run sqrt xs = GenAgg.vsum.run sqrt ys := by
  unfold GenAgg.vsum.run
  simp -zeta -iota -proj only [vfoldN_valid, h]
theorem vmean_nulls (sqrt : Rat → Rat) (xs ys : List (Option Rat)) (h : valid xs = valid ys) :
    GenAgg.vmean.run sqrt xs = GenAgg.vmean.run sqrt ys := by
  unfold GenAgg.vmean.run
  simp -zeta -iota -proj only [vfoldN_valid, h]
theorem vmean_var_nulls (sqrt : Rat → Rat) (xs ys : List (Option Rat)) (mp : Nat) (h : valid xs = valid ys) :
    GenAgg.vmean_var.run sqrt xs mp = GenAgg.vmean_var.run sqrt ys mp := by
  unfold GenAgg.vmean_var.run
  simp -zeta -iota -proj only [vapplyN_valid, h]
theorem vvar_nulls (sqrt : Rat → Rat) (xs ys : List (Option Rat)) (mp : Nat) (h : valid xs = valid ys) :
    GenAgg.vvar.run sqrt xs mp = GenAgg.vvar.run sqrt ys mp := by
  simp only [GenAgg.vvar.run, vmean_var_nulls sqrt xs ys mp h]
theorem vstd_nulls (sqrt : Rat → Rat) (xs ys : List (Option Rat)) (mp : Nat) (h : valid xs = valid ys) :
    GenAgg.vstd.run sqrt xs mp = GenAgg.vstd.run sqrt ys mp := by
  simp only [GenAgg.vstd.run, vvar_nulls sqrt xs ys mp h]
theorem vskew_nulls (sqrt : Rat → Rat) (xs ys : List (Option Rat)) (mp : Nat) (h : valid xs = valid ys) :
    GenAgg.vskew.run sqrt xs mp = GenAgg.vskew.run sqrt ys mp := by
  unfold GenAgg.vskew.run
  simp -zeta -iota -proj only [vapplyN_valid, h]
theorem vmax_nulls (sqrt : Rat → Rat) (xs ys : List (Option Rat)) (h : valid xs = valid ys) :
    GenAgg.vmax.run sqrt xs = GenAgg.vmax.run sqrt ys := by
  unfold GenAgg.vmax.run
  simp -zeta -iota -proj only [vfold_valid, h]
theorem vmin_nulls (sqrt : Rat → Rat) (xs ys : List (Option Rat)) (h : valid xs = valid ys) :
    GenAgg.vmin.run sqrt xs = GenAgg.vmin.run sqrt ys := by
  unfold GenAgg.vmin.run
  simp -zeta -iota -proj only [vfold_valid, h]

theorem count_valid_nulls (xs ys : List (Option Rat)) (h : valid xs = valid ys) :
    GenAgg.count_valid.run (fun x => x) xs = GenAgg.count_valid.run (fun x => x) ys := by
  rw [C12GenA.count_valid_len, C12GenA.count_valid_len, h]

/-- a `zip … for_each` closure that leaves its state alone on a pair with a null sees
`complete (xs.zip ys)` only -/
theorem fold_complete {σ : Type} (L : σ → Option Rat × Option Rat → σ)
    (h1 : ∀ st b, L st (none, b) = st) (h2 : ∀ st a, L st (some a, none) = st)
    (st : σ) (l : List (Option Rat × Option Rat)) :
    List.foldl L st l = List.foldl (fun st p => L st (some p.1, some p.2)) st (C04.Spec.complete l) := by
  unfold C04.Spec.complete
  rw [List.foldl_filterMap]
  congr 1
  funext st p
  obtain ⟨_ | a, _ | b⟩ := p
  · exact h1 st _
  · exact h1 st _
  · exact h2 st a
  · rfl

theorem vcov_nulls (sqrt : Rat → Rat) (xs ys xs' ys' : List (Option Rat)) (mp : Nat)
    (h : C04.Spec.complete (xs.zip ys) = C04.Spec.complete (xs'.zip ys')) :
    GenAgg.vcov.run sqrt xs ys mp = GenAgg.vcov.run sqrt xs' ys' mp := by
  unfold GenAgg.vcov.run
  -- the discharger: the generated closure returns its state on a pair with a null, by `rfl`
  simp -zeta -iota -proj (disch := intros; rfl) only [fold_complete, h]

theorem vcorr_nulls (sqrt : Rat → Rat) (xs ys xs' ys' : List (Option Rat)) (mp : Nat)
    (h : C04.Spec.complete (xs.zip ys) = C04.Spec.complete (xs'.zip ys')) :
    GenAgg.vcorr_pearson.run sqrt xs ys mp = GenAgg.vcorr_pearson.run sqrt xs' ys' mp := by
  unfold GenAgg.vcorr_pearson.run
  simp -zeta -iota -proj (disch := intros; rfl) only [fold_complete, h]

/-! ## order statistics regenerated from tea-agg/src/vec_valid.rs -/

/-- **nulls are transparent to the regenerated `vquantile`**: two series with the same non-null
elements (nulls inserted or deleted anywhere) have the same `q`-quantile under every interpolation,
whatever permutation std's selection produces -/
theorem vquantile_nulls {S : C12.Std} (hS : S.Ok) (xs ys : List (Option Rat)) (q : Rat) (m : C12.QMethod)
    (h0 : 0 ≤ q) (h1 : q ≤ 1) (h : valid xs = valid ys) :
    GenQuant.vquantile.run S xs q m = GenQuant.vquantile.run S ys q m := by
  have e : C12.Spec.quantile xs q (C12.toInterp m) = C12.Spec.quantile ys q (C12.toInterp m) := by
    unfold C12.Spec.quantile C12.Spec.sortedValid
    rw [h]
  rw [C12GenA.vquantile_from_source hS xs q m h0 h1, C12GenA.vquantile_from_source hS ys q m h0 h1, e]

/-- … and to the median -/
theorem vmedian_nulls {S : C12.Std} (hS : S.Ok) (xs ys : List (Option Rat)) (h : valid xs = valid ys) :
    GenQuant.vquantile.run S xs (1 / 2) .linear = GenQuant.vquantile.run S ys (1 / 2) .linear :=
  vquantile_nulls hS xs ys (1 / 2) .linear (by norm_num) (by norm_num) h

end Tv.C08Gen
