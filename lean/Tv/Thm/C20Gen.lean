import Tv.GenFin
import Tv.Thm.C20
import Tv.Thm.C13Gen
import Tv.Thm.C11Gen
import Tv.Thm.C12GenB
/-!
# C20 — `half_life` regenerated from tevec/src/agg.rs is the model's

`Tv.GenFin.half_life.run` (translator/finals.py) is the body of `half_life` statement by
statement: the two `while` loops are `Gen.whileFuel` over the tuple of assigned variables, every
`usize` subtraction carries its underflow guard, the lag autocorrelation is the parameter
`corrAt lag min_periods`.  The theorems below prove that this regenerated function *is*
`Tv.C20.halfLife` run on the classification of those correlations — so termination, absence of
the underflow panic, range, crossing and threshold theorems of `Tv/Thm/C20.lean` are theorems
about the code that is in the tree.
With `oracleOk_src` the oracle hypothesis goes too.  The same for `winsorize` (tevec/src/map.rs,
`winsorize_eq`) and for the Spearman arm of `vcorr` (`vcorr_spearman_from_source`).
-/
namespace Tv.C20Gen
open Tv Tv.C20 Tv.Gen

/-- classification of a lag autocorrelation (`none` = NaN) against 0.5 -/
def clsOf : Option Rat → Cls
  | none => .nan
  | some q => if q > 1 / 2 then .above else if q = 1 / 2 then .half else .below

/-- the model's outcome type as the translator's -/
def toRun : Res → Run Nat
  | .ok n => .ok n
  | .panic => .panic
  | .timeout => .timeout

theorem clsOf_some_above (q : Rat) : clsOf (some q) = .above ↔ q > 1 / 2 := by
  show (if q > 1 / 2 then Cls.above else if q = 1 / 2 then .half else .below) = .above ↔ _
  by_cases h : q > 1 / 2
  · rw [if_pos h]; exact iff_of_true rfl h
  · rw [if_neg h]
    refine iff_of_false (fun e => ?_) h
    split at e <;> cases e

/-- the source's test `corr > 0.5` -/
theorem clsOf_above (o : Option Rat) : fGt o ((1 : Rat) / 2) = true ↔ clsOf o = .above := by
  cases o with
  | none => exact iff_of_false Bool.false_ne_true nofun
  | some q => exact decide_eq_true_iff.trans (clsOf_some_above q).symm

/-- the source's test `corr <= 0.5 || corr.is_nan()` -/
theorem clsOf_not_above (o : Option Rat) :
    (fLe o ((1 : Rat) / 2) || o.isNone) = true ↔ clsOf o ≠ .above := by
  cases o with
  | none => exact iff_of_true rfl nofun
  | some q =>
    rw [Ne, clsOf_some_above, not_lt]
    show (decide (q ≤ 1 / 2) || false) = true ↔ _
    rw [Bool.or_false, decide_eq_true_iff]

/-- the doubling loop: a `whileFuel` whose guard, condition and body satisfy the equations of the
source loop is the model's `doubling` (the exponent `i` is dropped by the model) -/
theorem loop1_sim (c : Nat → Cls) (len : Nat) {G C : Nat × Nat × Nat → Bool}
    {B : Nat × Nat × Nat → (Nat × Nat × Nat) × Bool} :
    ∀ {fuel n l i : Nat} {w : Run (Nat × Nat × Nat)}, whileFuel G C B fuel (n, l, i) = w →
      (∀ s, G s = true) → (∀ n l i, C (n, l, i) = decide (n < len)) →
      (∀ n l i, B (n, l, i) =
        if c (2 ^ i) = .above then ((2 ^ i, 2 ^ i, i + 1), false) else ((2 ^ i, l, i), true)) →
      (doubling c len fuel n l i = none ∧ w = .timeout) ∨
      (∃ n' l' i', doubling c len fuel n l i = some (n', l') ∧ w = .ok (n', l', i')) := by
  intro fuel n l i w hw hG hC hB
  subst hw
  fun_induction doubling c len fuel n l i with
  | case1 => exact Or.inl ⟨rfl, rfl⟩
  | case2 f n l i hlt n' ha ih =>
    rw [whileFuel, hG, hC, hB, decide_eq_true hlt, if_pos ha]
    exact ih
  | case3 f n l i hlt n' ha =>
    rw [whileFuel, hG, hC, hB, decide_eq_true hlt, if_neg ha]
    exact Or.inr ⟨_, _, _, rfl, rfl⟩
  | case4 f n l i hlt =>
    rw [whileFuel, hG, hC, decide_eq_false hlt]
    exact Or.inr ⟨_, _, _, rfl, rfl⟩

/-- the bisection loop is the model's `bisect` (the final `last_n` is dropped by the model) -/
theorem loop2_sim (c : Nat → Cls) {G C : Nat × Nat → Bool} {B : Nat × Nat → (Nat × Nat) × Bool} :
    ∀ {fuel n l : Nat} {w : Run (Nat × Nat)}, whileFuel G C B fuel (n, l) = w →
      (∀ n l, G (n, l) = decide (l ≤ n)) → (∀ n l, C (n, l) = decide (n - l > 1)) →
      (∀ n l, B (n, l) =
        if c ((n + l) / 2) = .above then ((n, (n + l) / 2), false) else (((n + l) / 2, l), false)) →
      (bisect c fuel n l = .timeout ∧ w = .timeout) ∨ (bisect c fuel n l = .panic ∧ w = .panic) ∨
      (∃ r l', bisect c fuel n l = .ok r ∧ w = .ok (r, l')) := by
  intro fuel n l w hw hG hC hB
  subst hw
  fun_induction bisect c fuel n l with
  | case1 => exact Or.inl ⟨rfl, rfl⟩
  | case2 f n l h1 =>
    rw [whileFuel, hG, decide_eq_false (Nat.not_le.mpr h1)]
    exact Or.inr (Or.inl ⟨rfl, rfl⟩)
  | case3 f n l h1 h2 life ha ih =>
    rw [whileFuel, hG, hC, hB, decide_eq_true (Nat.not_lt.mp h1), decide_eq_true h2, if_pos ha]
    exact ih
  | case4 f n l h1 h2 life ha ih =>
    rw [whileFuel, hG, hC, hB, decide_eq_true (Nat.not_lt.mp h1), decide_eq_true h2, if_neg ha]
    exact ih
  | case5 f n l h1 h2 =>
    rw [whileFuel, hG, hC, decide_eq_true (Nat.not_lt.mp h1), decide_eq_false h2]
    exact Or.inr (Or.inr ⟨_, _, rfl, rfl⟩)

theorem bisect_fuel_succ (c : Nat → Cls) (fuel n l : Nat) :
    bisect c fuel n l ≠ .timeout → bisect c (fuel + 1) n l = bisect c fuel n l := by
  fun_induction bisect c fuel n l with
  | case1 => exact fun h => absurd rfl h
  | case2 f n l h1 => intro _; rw [bisect, if_pos h1]
  | case3 f n l h1 h2 life ha ih => intro h; rw [bisect, if_neg h1, if_pos h2, if_pos ha]; exact ih h
  | case4 f n l h1 h2 life ha ih => intro h; rw [bisect, if_neg h1, if_pos h2, if_neg ha]; exact ih h
  | case5 f n l h1 h2 => intro _; rw [bisect, if_neg h1, if_neg h2]

theorem half_life_run (corrAt : Nat → Nat → Option Rat) (len : Nat) (mp : Option Nat) (f : Nat) :
    GenFin.half_life.run corrAt len mp f =
      if len = 0 then .ok 0 else
        match doubling (fun l => clsOf (corrAt l (mp.getD (len / 2)))) len f 0 0 0 with
        | none => .timeout
        | some (n, last) =>
          toRun (bisect (fun l => clsOf (corrAt l (mp.getD (len / 2)))) f (min n (len - 1)) last) := by
  unfold GenFin.half_life.run
  by_cases h0 : len = 0
  · simp [h0]
  · have h1 : 1 ≤ len := by omega
    simp only [h0, h1, decide_false, decide_true, Bool.false_eq_true, if_false, if_true]
    generalize hw : whileFuel _ _ _ f ((0 : Nat), (0 : Nat), (0 : Nat)) = w
    rcases loop1_sim (fun l => clsOf (corrAt l (mp.getD (len / 2)))) len hw (by intro s; rfl)
        (by intro n l i; rfl)
        (by
          intro n l i
          show (if (fLe _ _ || _) = true then _ else _) = _
          simp only [clsOf_not_above, ite_not])
      with ⟨hd, rfl⟩ | ⟨n', l', i', hd, rfl⟩
    · rw [hd]
    · rw [hd]
      simp only []
      generalize hw2 : whileFuel _ _ _ f (Nat.min n' (len - 1), l') = w2
      rcases loop2_sim (fun l => clsOf (corrAt l (mp.getD (len / 2)))) hw2 (by intro n l; rfl)
          (by intro n l; rfl)
          (by
            intro n l
            show (if fGt _ _ = true then _ else _) = _
            simp only [clsOf_above])
        with ⟨hb, rfl⟩ | ⟨hb, rfl⟩ | ⟨r, l'', hb, rfl⟩ <;>
      exact (congrArg toRun hb).symm

/-- **the regenerated `half_life` is the model**: with `len + 1` units of fuel per loop it returns
what `Tv.C20.halfLife` returns on the classification of the lag autocorrelations -/
theorem half_life_eq (corrAt : Nat → Nat → Option Rat) (len : Nat) (mp : Option Nat) :
    GenFin.half_life.run corrAt len mp (len + 1) =
      toRun (halfLife (fun l => clsOf (corrAt l (mp.getD (len / 2)))) len) := by
  rw [half_life_run]
  unfold halfLife
  by_cases h0 : len = 0
  · simp [h0, toRun]
  · simp only [h0, if_false]
    obtain ⟨⟨r0, hr0⟩, hb⟩ := halfLife_fuel_suffices (fun l => clsOf (corrAt l (mp.getD (len / 2)))) len h0
    rw [hr0]
    obtain ⟨n, last⟩ := r0
    simp only []
    rw [bisect_fuel_succ _ _ _ _ (hb _ _ (Nat.min_le_right _ _))]

/-- the regenerated `half_life` never runs out of fuel: both source loops terminate -/
theorem half_life_terminates (corrAt : Nat → Nat → Option Rat) (len : Nat) (mp : Option Nat) :
    GenFin.half_life.run corrAt len mp (len + 1) ≠ .timeout := by
  rw [half_life_eq]
  cases h : halfLife (fun l => clsOf (corrAt l (mp.getD (len / 2)))) len with
  | timeout => exact absurd h (halfLife_terminates _ len)
  | ok r => nofun
  | panic => nofun

/-- an autocorrelation above 0.5 needs two valid pairs (`OracleOk`): then the regenerated code
returns a lag, i.e. no `usize` subtraction underflows, and the lag is in range -/
theorem half_life_ok_range (corrAt : Nat → Nat → Option Rat) (len : Nat) (mp : Option Nat)
    (h : OracleOk (fun l => clsOf (corrAt l (mp.getD (len / 2)))) len) :
    ∃ r, GenFin.half_life.run corrAt len mp (len + 1) = .ok r ∧ r ≤ len - 1 ∧ (r = 0 ↔ len < 2) := by
  rw [half_life_eq]
  obtain ⟨r, hr⟩ := halfLife_no_panic _ len h
  refine ⟨r, by rw [hr]; rfl, ?_⟩
  exact halfLife_range _ len r h hr

/-! ## the lag autocorrelation of the source -/

theorem pairsValid_le_valid (xs ys : List (Option Rat)) :
    (C11.Spec.pairsValid xs ys).length ≤ (valid ys).length := by
  show ((xs.zip ys).filterMap C11.Spec.pairOf).length ≤ (ys.filterMap fun x => x).length
  induction xs generalizing ys with
  | nil => exact Nat.zero_le _
  | cons x xs ih =>
    cases ys with
    | nil => exact Nat.zero_le _
    | cons y ys =>
      have := ih ys
      cases x <;> cases y <;>
        simp only [List.zip_cons_cons, List.filterMap_cons, C11.Spec.pairOf, List.length_cons] <;> omega

theorem valid_replicate_none (k : Nat) : valid (List.replicate k (none : Option Rat)) = [] :=
  List.filterMap_replicate_of_none rfl

theorem valid_vshift_le (xs : List (Option Rat)) (l : Nat) :
    (valid (GenMap.vshift.run xs (Int.ofNat l) none)).length ≤ xs.length - l := by
  unfold GenMap.vshift.run
  simp only [Int.ofNat_eq_natCast, Int.natAbs_natCast, Option.getD_none, decide_eq_true_eq]
  by_cases h : xs.length ≤ l
  · rw [if_pos h, valid_replicate_none]; exact Nat.zero_le _
  · rw [if_neg h]
    by_cases hp : ((l : Int) > 0)
    · rw [if_pos hp, C11.valid_append, valid_replicate_none, List.nil_append]
      exact (C12.valid_length_le _).trans (List.length_take_le _ _)
    · have hl : l = 0 := by omega
      subst hl
      rw [if_neg hp, if_neg (Int.not_lt.mpr (Int.natCast_nonneg 0))]
      exact C12.valid_length_le xs

/-- a defined lag autocorrelation needs two pairwise-complete observations of the series and its
shift: `corrSrc … lag mp = some q → lag + 2 ≤ len` -/
theorem corrSrc_some (sqrt : Rat → Rat) (xs : List (Option Rat)) (l mp : Nat) (q : Rat)
    (h : GenFin.half_life.corrSrc sqrt xs l mp = some q) : l + 2 ≤ xs.length := by
  unfold GenFin.half_life.corrSrc at h
  have hs := C11Gen.vcorr_spec sqrt xs (GenMap.vshift.run xs (Int.ofNat l) none) mp
  by_contra hlt
  have hfew : (C11.Spec.pairsValid xs (GenMap.vshift.run xs (Int.ofNat l) none)).length < max mp 2 := by
    have h1 := pairsValid_le_valid xs (GenMap.vshift.run xs (Int.ofNat l) none)
    have h2 := valid_vshift_le xs l
    omega
  have hnull : C11.Spec.vcorr mp xs (GenMap.vshift.run xs (Int.ofNat l) none) = .null := by
    rw [← C11.vcorr_exact]; exact (C11.vcorr_null_iff mp xs _).mpr hfew
  rw [hnull, h] at hs
  simp [GenSim.AgreeW] at hs

/-- **the oracle hypothesis holds for the code in the tree** -/
theorem oracleOk_src (sqrt : Rat → Rat) (xs : List (Option Rat)) (mp : Nat) :
    OracleOk (fun l => clsOf (GenFin.half_life.corrSrc sqrt xs l mp)) xs.length := by
  intro l hl
  simp only [] at hl
  cases hc : GenFin.half_life.corrSrc sqrt xs l mp with
  | none => rw [hc] at hl; simp [clsOf] at hl
  | some q => exact corrSrc_some sqrt xs l mp q hc

/-- **from source, no hypothesis**: `half_life` as regenerated — loops, guards, the
`vcorr_pearson ∘ vshift` autocorrelation — terminates within `len + 1` iterations per loop, never
underflows, and returns a lag in `0 ..= len - 1` that is `0` exactly for series shorter than two,
for every series, every `min_periods` and every reading `sqrt` of the square root -/
theorem half_life_from_source (sqrt : Rat → Rat) (xs : List (Option Rat)) (mp : Option Nat) :
    ∃ r, GenFin.half_life.runSrc sqrt xs mp (xs.length + 1) = .ok r ∧ r ≤ xs.length - 1 ∧
      (r = 0 ↔ xs.length < 2) := by
  unfold GenFin.half_life.runSrc
  exact half_life_ok_range (GenFin.half_life.corrSrc sqrt xs) xs.length mp (oracleOk_src sqrt xs _)

theorem half_life_present : GenFin.half_life.parsed = true ∧ GenFin.half_life.loops = 2 := ⟨rfl, rfl⟩

/-! ## winsorize (tevec/src/map.rs), regenerated -/

/-- the model's method as the translator's enum -/
def toWin : Method → GenFin.WinMethod
  | .quantile => .quantile
  | .median => .median
  | .sigma => .sigma

theorem vclip_model (lo hi : Option Rat) (xs : List (Option Rat)) :
    GenMap.vclip.run xs lo hi = C20.vclip lo hi xs := by
  rw [C13Gen.vclip_eq]
  unfold C13.vclip C20.vclip
  cases lo <;> cases hi <;> simp only []
  all_goals
    apply List.map_congr_left
    intro v _
    cases v <;> simp only []

theorem eps_eq : GenAgg.EPS = C20.EPS := by norm_num [GenAgg.EPS, C20.EPS]

theorem ratAbs_eq (x : Rat) : Gen.ratAbs x = absR x := rfl

/-- **the regenerated `winsorize` is the model**: with the model's `vquantile` / `vmedian` /
`vmean_var(2)` for its three parameters it returns `Ok` of `Tv.C20.winsorize` — defaults, bounds,
guards and pass-through branches of all three methods are those of the source -/
theorem winsorize_eq (sqrt : Rat → Rat) (xs : List (Option Rat)) (m : Method) (p : Option Rat) :
    GenFin.winsorize.run sqrt (fun l q => some (C20.vquantile l q)) C20.vmedian (fun l _ => vmeanVar2 l)
      xs (toWin m) p = some (C20.winsorize sqrt m p xs) := by
  cases m with
  | quantile =>
    simp only [GenFin.winsorize.run, toWin, C20.winsorize, bounds, Method.dflt, vclip_model]
  | median =>
    simp only [GenFin.winsorize.run, toWin, C20.winsorize, bounds, Method.dflt, vclip_model]
    cases hmed : C20.vmedian xs with
    | none => simp [C20.vclip]
    | some med =>
      simp only [Option.isSome_some, if_true]
      have hmap : (xs.map fun v => (lift2 (· - ·) v (some med)).map ratAbs) =
          xs.map (Option.map fun v => absR (v - med)) := by
        apply List.map_congr_left
        intro v _
        cases v <;> rfl
      rw [hmap]
      cases C20.vmedian (xs.map (Option.map fun v => absR (v - med))) with
      | none => simp [lift2, C20.vclip]
      | some mad => simp [lift2]
  | sigma =>
    simp only [GenFin.winsorize.run, toWin, C20.winsorize, bounds, Method.dflt, vclip_model, eps_eq]
    rcases hmv : vmeanVar2 xs with ⟨_ | mean, _ | var⟩
    · simp [C20.vclip]
    · simp [C20.vclip]
    · simp [C20.vclip]
    · by_cases hv : var > C20.EPS
      · simp [fGt, hv, lift2]
      · simp [fGt, hv, C20.vclip]

/-- **from source**: the regenerated `winsorize` clips to one interval — the bounds of the chosen
method — for every method and every parameter in range -/
theorem winsorize_from_source_is_clip (sqrt : Rat → Rat) (hs : ∀ x, 0 ≤ sqrt x) (m : Method) (p : Option Rat)
    (hp : ParamOk m p) (xs : List (Option Rat)) :
    GenFin.winsorize.run sqrt (fun l q => some (C20.vquantile l q)) C20.vmedian (fun l _ => vmeanVar2 l)
      xs (toWin m) p = some (Spec.clip (bounds sqrt m p xs).1 (bounds sqrt m p xs).2 xs) := by
  rw [winsorize_eq, winsorize_is_clip sqrt hs m p hp xs]

/-- … one value per input, nulls stay null -/
theorem winsorize_from_source_shape (sqrt : Rat → Rat) (m : Method) (p : Option Rat) (xs : List (Option Rat)) :
    ∃ out, GenFin.winsorize.run sqrt (fun l q => some (C20.vquantile l q)) C20.vmedian (fun l _ => vmeanVar2 l)
      xs (toWin m) p = some out ∧ out.length = xs.length ∧
      ∀ i : Nat, xs[i]? = some none → out[i]? = some none :=
  ⟨_, winsorize_eq sqrt xs m p, winsorize_length sqrt m p xs, fun i h => (winsorize_null sqrt m p xs i).mpr h⟩

theorem winsorize_present : GenFin.winsorize.parsed = true := rfl

/-! ## vcorr (tevec/src/agg.rs), regenerated: Spearman = Pearson of the average ranks -/

theorem avgRank_eq_rankOf (xs : List (Option Rat)) (v : Rat) :
    C12.Spec.avgRank xs false false v = rankOf (valid xs) v := by
  simp only [C12.Spec.avgRank, C12.Spec.cntLt, C12.Spec.cntEq, rankOf, List.countP_eq_length_filter,
    Bool.false_eq_true, if_false]
  ring

/-- the flattened output of the regenerated `vrank(false, false)` is the model's average ranks -/
theorem vrank_flat {S : C12.Std} (hS : S.Ok) (xs : List (Option Rat)) :
    ∃ r, GenRank.vrank.run S xs false false = some r ∧ r.map Option.join = C20.vrank xs := by
  refine ⟨_, C12GenB.vrank_eq S xs false false, ?_⟩
  rw [C12.vrank_exact hS]
  simp only [C12GenB.outMap, C12.Spec.rank, C20.vrank, List.map_map]
  apply List.map_congr_left
  intro x _
  cases x with
  | none => rfl
  | some v => simp [C12GenB.outToF, avgRank_eq_rankOf]

/-- Pearson arm: the regenerated `vcorr_pearson` with the defaulted `min_periods` -/
theorem vcorr_pearson_from_source (sqrt : Rat → Rat) (S : C12.Std) (xs ys : List (Option Rat)) (mp : Option Nat) :
    GenFin.vcorr.run sqrt S xs ys mp .pearson =
      some (GenAgg.vcorr_pearson.run sqrt xs ys (mp.getD (xs.length / 2))) := rfl

/-- **from source: Spearman correlation is the Pearson correlation of the average ranks** (ties the
average rank, nulls a null rank), whatever permutation the argsort inside `vrank` produces -/
theorem vcorr_spearman_from_source (sqrt : Rat → Rat) {S : C12.Std} (hS : S.Ok) (xs ys : List (Option Rat))
    (mp : Option Nat) :
    GenFin.vcorr.run sqrt S xs ys mp .spearman =
      some (GenAgg.vcorr_pearson.run sqrt (C20.vrank xs) (C20.vrank ys) (mp.getD (xs.length / 2))) := by
  obtain ⟨r1, h1, e1⟩ := vrank_flat hS xs
  obtain ⟨r2, h2, e2⟩ := vrank_flat hS ys
  simp only [GenFin.vcorr.run, h1, h2, e1, e2]

/-- … and that value agrees with the textbook Pearson correlation of the two rank vectors -/
theorem vcorr_spearman_spec (sqrt : Rat → Rat) {S : C12.Std} (hS : S.Ok) (xs ys : List (Option Rat))
    (mp : Option Nat) :
    ∃ o, GenFin.vcorr.run sqrt S xs ys mp .spearman = some o ∧
      GenSim.AgreeW o (C11.Spec.vcorr (mp.getD (xs.length / 2)) (C20.vrank xs) (C20.vrank ys)) :=
  ⟨_, vcorr_spearman_from_source sqrt hS xs ys mp, C11Gen.vcorr_spec sqrt _ _ _⟩

/-- **from source: Spearman correlation is invariant under strictly increasing transformations of
either series** -/
theorem vcorr_spearman_invariant (sqrt : Rat → Rat) {S : C12.Std} (hS : S.Ok) (f g : Rat → Rat)
    (hf : StrictMono f) (hg : StrictMono g) (xs ys : List (Option Rat)) (mp : Option Nat) :
    GenFin.vcorr.run sqrt S (xs.map (Option.map f)) (ys.map (Option.map g)) mp .spearman =
      GenFin.vcorr.run sqrt S xs ys mp .spearman := by
  rw [vcorr_spearman_from_source sqrt hS, vcorr_spearman_from_source sqrt hS,
    vrank_strictMono f hf, vrank_strictMono g hg, List.length_map]

theorem vcorr_present : GenFin.vcorr.parsed = true := rfl

end Tv.C20Gen
