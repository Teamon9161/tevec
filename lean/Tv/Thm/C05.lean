import Tv.Thm.C05Reg
import Tv.Thm.C01
import Tv.Lemmas.Local
import Tv.Thm.C03
/-!
# C05 — rolling outputs are input-length and null exactly during warm-up

Part 1: the 16 feature entry points (from `C01.tsFeat_exact`). Part 2, below: the extrema / rank /
normalisation family (from the C03 `_exact` theorems). Part 3, the covariance / regression family,
is `Thm/C05Reg.lean`, imported here so that this module carries the whole property; the one lemma
all parts share, `mask_null_iff`, stands there. The closures regenerated from source are the subject
of `Thm/C05Gen.lean`.
-/
namespace Tv.C05
open Tv

/-- **translator tie**: the mask expression, window clamp, intrinsic minimum and driver of every
`ts_*` entry point, regenerated from the Rust sources on this run, are the ones the model uses. -/
theorem maskTable_matches : Generated.maskTable = Model.maskTable := rfl

/-- effective `min_periods` of the feature family, as the property names it: `max (min (mp or w/2) w) k` -/
theorem effMp_def (mp : Option Nat) (w k : Nat) : effMp mp w k = max (min (mp.getD (w / 2)) w) k := rfl

/-- one output per input (the model outcome is a list, never a panic) -/
theorem feat_len (f : Feat) (sh : Shape) (xs : List (Option Rat)) (w : Nat) (mp : Option Nat) (hw : 1 ≤ w) :
    (tsFeat f sh xs w mp).length = xs.length := C01.tsFeat_length f sh xs w mp hw

theorem feat_empty (f : Feat) (sh : Shape) (w : Nat) (mp : Option Nat) (hw : 1 ≤ w) :
    tsFeat f sh [] w mp = [] := by
  have := feat_len f sh [] w mp hw
  simpa using this

/-- the from-scratch value is null exactly below the effective minimum -/
theorem spec_null_iff (f : Feat) (w : Nat) (mp : Option Nat) (l : List Rat) :
    Spec.feat f w mp l = .null ↔ l.length < effMp mp w f.minK := by
  cases f <;> simp only [Spec.feat, Spec.tsSum, Spec.tsMean, Spec.tsEwm, Spec.tsWma, Spec.tsStd, Spec.tsVar,
    Spec.tsSkew, Spec.tsKurt, Spec.masked] <;> refine mask_null_iff ?_ <;> (try unfold Out.div) <;> repeat' split
  all_goals exact Out.noConfusion

/-- **mask law**: output `i` is null iff the number of non-null observations in its window is
below `max k (min (min_periods or w/2) w)`, `k` = 2 for variance-type, 3 skewness, 4 kurtosis;
in particular it is non-null (a value, or a zero-denominator `degenerate`) once the count is
reached. -/
theorem feat_null_iff (f : Feat) (sh : Shape) (xs : List (Option Rat)) (w : Nat) (mp : Option Nat)
    (hw : 1 ≤ w) (i : Nat) (hi : i < xs.length) :
    (tsFeat f sh xs w mp)[i]? = some .null ↔ (vwin xs i w).length < effMp mp w f.minK := by
  rw [C01.tsFeat_exact f sh xs w mp hw]
  simp only [List.getElem?_map, List.getElem?_range hi, Option.map_some, Option.some.injEq]
  exact spec_null_iff f w mp _

/-- the intrinsic minimum really is a lower bound of the effective one -/
theorem minK_le_eff (f : Feat) (w : Nat) (mp : Option Nat) : f.minK ≤ effMp mp w f.minK :=
  Nat.le_max_right _ _

example : (tsFeat .var .iter [some 1, none, some 3, some 7] 3 none)[1]? = some .null :=
  (feat_null_iff .var .iter _ 3 none (by decide) 1 (by decide)).mpr (by decide)

/-! ## Part 2 — extrema / arg-extrema / rank / normalisation family (from the C03 `_exact` theorems)

Effective minimum: `cmpMp mp w len = mp.getD (min len w / 2)` for the five cmp.rs functions (the
window is clamped to the length *before* the default is taken and an explicit `min_periods` is
not clamped — DESIGN 5.3), `normMp mp w = min (mp.getD (w/2)) w` for the two norm.rs functions.
The count is the number of non-null elements of the window.

For this family only "null below the minimum" is proved, and for minimum / maximum "non-null from
there on"; no converse is claimed for arg-extrema, rank and the two normalisations. -/

open Tv.C03 in
/-- below the effective minimum every one of the seven specs is null -/
theorem c03_spec_null_below (m : Nat) (l : List (Option Rat)) (h : (C03.Spec.vals l).length < m) :
    C03.Spec.tsMin m l = .null ∧ C03.Spec.tsMax m l = .null ∧ C03.Spec.tsArgmin m l = .null ∧
    C03.Spec.tsArgmax m l = .null ∧ (∀ pct rev, C03.Spec.tsRank m pct rev l = .null) ∧
    C03.Spec.tsMinmaxnorm m l = .null ∧ C03.Spec.tsZscore m l = .null := by
  have hm : ∀ o, C03.Spec.masked m l o = .null := by
    intro o; simp [C03.Spec.masked, Nat.not_le_of_lt h]
  refine ⟨hm _, hm _, hm _, hm _, ?_, ?_, ?_⟩
  · intro pct rev; unfold C03.Spec.tsRank; split <;> simp [hm]
  · unfold C03.Spec.tsMinmaxnorm; split <;> simp [hm]
  · unfold C03.Spec.tsZscore; split <;> simp [hm]

/-- once the count is reached (and at least one valid element exists) minimum and maximum are non-null -/
theorem c03_minmax_nonnull (m : Nat) (l : List (Option Rat)) (h : m ≤ (C03.Spec.vals l).length)
    (h1 : 1 ≤ (C03.Spec.vals l).length) :
    C03.Spec.tsMin m l ≠ .null ∧ C03.Spec.tsMax m l ≠ .null := by
  have hne : C03.Spec.vals l ≠ [] := by
    intro h0; rw [h0] at h1; simp at h1
  constructor
  · simp only [C03.Spec.tsMin, C03.Spec.masked, ge_iff_le, h, if_true]
    cases hl : C03.Spec.least (C03.Spec.vals l) with
    | none => exact absurd ((C03.least_none_iff _).mp hl) hne
    | some q => simp [C03.Spec.ofOpt]
  · simp only [C03.Spec.tsMax, C03.Spec.masked, ge_iff_le, h, if_true]
    cases hl : C03.Spec.greatest (C03.Spec.vals l) with
    | none =>
      exfalso
      -- greatest = none only for the empty list
      cases hv : C03.Spec.vals l with
      | nil => exact hne hv
      | cons x r =>
        rw [hv] at hl
        simp only [C03.Spec.greatest] at hl
        split at hl <;> simp at hl
    | some q => simp [C03.Spec.ofOpt]

/-- **length** of every output of the family = length of the input (`[]` for `[]`) -/
theorem c03_len (sh : Shape) (xs : List (Option Rat)) (w : Nat) (mp : Option Nat) (hw : 1 ≤ w) :
    (C03.tsVmin sh xs w mp).length = xs.length ∧ (C03.tsVmax sh xs w mp).length = xs.length ∧
    (C03.tsVargmin sh xs w mp).length = xs.length ∧ (C03.tsVargmax sh xs w mp).length = xs.length ∧
    (∀ pct rev, (C03.tsVrank sh xs w mp pct rev).length = xs.length) ∧
    (C03.tsVminmaxnorm sh xs w mp).length = xs.length ∧ (C03.tsVzscore sh xs w mp).length = xs.length := by
  refine ⟨?_, ?_, ?_, ?_, ?_, ?_, ?_⟩
  · rw [C03.vmin_exact sh xs w mp hw]; simp
  · rw [C03.vmax_exact sh xs w mp hw]; simp
  · rw [C03.vargmin_exact sh xs w mp hw]; simp
  · rw [C03.vargmax_exact sh xs w mp hw]; simp
  · intro pct rev; rw [C03.vrank_exact sh xs w mp pct rev hw]; simp
  · rw [C03.vminmaxnorm_exact sh xs w mp hw]; simp
  · rw [C03.vzscore_exact sh xs w mp hw]; simp

/-- **mask law, extrema / rank family**: output `i` is null whenever the window holds fewer than
`cmpMp mp w len` non-null elements -/
theorem c03_cmp_null_below (sh : Shape) (xs : List (Option Rat)) (w : Nat) (mp : Option Nat)
    (hw : 1 ≤ w) (i : Nat) (hi : i < xs.length)
    (h : (C03.Spec.vals (window xs i w)).length < C03.cmpMp mp w xs.length) :
    (C03.tsVmin sh xs w mp)[i]? = some .null ∧ (C03.tsVmax sh xs w mp)[i]? = some .null ∧
    (C03.tsVargmin sh xs w mp)[i]? = some .null ∧ (C03.tsVargmax sh xs w mp)[i]? = some .null ∧
    (∀ pct rev, (C03.tsVrank sh xs w mp pct rev)[i]? = some .null) := by
  obtain ⟨hmin, hmax, hargmin, hargmax, hrank, _⟩ := c03_spec_null_below _ _ h
  refine ⟨?_, ?_, ?_, ?_, ?_⟩
  · rw [C03.vmin_exact sh xs w mp hw, windowed_get _ xs w i hi, hmin]
  · rw [C03.vmax_exact sh xs w mp hw, windowed_get _ xs w i hi, hmax]
  · rw [C03.vargmin_exact sh xs w mp hw, windowed_get _ xs w i hi, hargmin]
  · rw [C03.vargmax_exact sh xs w mp hw, windowed_get _ xs w i hi, hargmax]
  · intro pct rev
    rw [C03.vrank_exact sh xs w mp pct rev hw, windowed_get _ xs w i hi, hrank]

/-- **mask law, normalisation family** -/
theorem c03_norm_null_below (sh : Shape) (xs : List (Option Rat)) (w : Nat) (mp : Option Nat)
    (hw : 1 ≤ w) (i : Nat) (hi : i < xs.length)
    (h : (C03.Spec.vals (window xs i w)).length < C03.normMp mp w) :
    (C03.tsVminmaxnorm sh xs w mp)[i]? = some .null ∧ (C03.tsVzscore sh xs w mp)[i]? = some .null := by
  obtain ⟨_, _, _, _, _, hnorm, hz⟩ := c03_spec_null_below _ _ h
  constructor
  · rw [C03.vminmaxnorm_exact sh xs w mp hw, windowed_get _ xs w i hi, hnorm]
  · rw [C03.vzscore_exact sh xs w mp hw, windowed_get _ xs w i hi, hz]

/-- minimum / maximum are non-null once the count is reached and the window has a valid element -/
theorem c03_minmax_nonnull_at (sh : Shape) (xs : List (Option Rat)) (w : Nat) (mp : Option Nat)
    (hw : 1 ≤ w) (i : Nat) (hi : i < xs.length)
    (h : C03.cmpMp mp w xs.length ≤ (C03.Spec.vals (window xs i w)).length)
    (h1 : 1 ≤ (C03.Spec.vals (window xs i w)).length) :
    (C03.tsVmin sh xs w mp)[i]? ≠ some .null ∧ (C03.tsVmax sh xs w mp)[i]? ≠ some .null := by
  have hs := c03_minmax_nonnull _ _ h h1
  constructor
  · rw [C03.vmin_exact sh xs w mp hw, windowed_get _ xs w i hi]; exact fun e => hs.1 (Option.some.inj e)
  · rw [C03.vmax_exact sh xs w mp hw, windowed_get _ xs w i hi]; exact fun e => hs.2 (Option.some.inj e)

end Tv.C05
