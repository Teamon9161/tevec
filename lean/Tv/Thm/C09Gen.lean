import Tv.GenMap
import Tv.Thm.C13Gen
import Tv.Lemmas.C09
import Mathlib.Tactic.SplitIfs
/-!
# C09 — the mapping iterators regenerated from tea-map yield exactly the length they announce

`Tv.GenMap.<fn>.run` is the list of items the returned iterator yields and `Tv.GenMap.<fn>.announced`
the length its `TrustedLen` contract announces, both written by translator/maps.py from the same
Rust source on every run (`to_trust(n)` / `TrustIter::new(_, n)` *claim* `n`; `chain` adds, `take`
is `min`, `skip` subtracts, `zip` is `min`, `repeat_n(v, k)` is `k`, `map` / `rev` keep the length, a
collected `Vec` announces its own length).  For each function: `yielded = announced` for every
series and parameter (`*_trusted`); where the announced length is not `xs.length` as written
(`shift`, `vshift`, `vdiff`, `vpct_change`, `vclip`, `bfill_mask`) it is shown to be the series length
(`*_announced`).
-/
namespace Tv.C09Gen
open Tv Tv.Gen

theorem mapSt_length {σ α β : Type} (f : σ → α → σ × β) (s : σ) (l : List α) : (mapSt f s l).length = l.length := by
  induction l generalizing s with
  | nil => rfl
  | cons x l ih => simp [mapSt, ih]

theorem shift_announced (xs : List (Option Rat)) (n : Int) (v : Option Rat) :
    GenMap.shift.announced xs n v = xs.length := by
  simp only [GenMap.shift.announced, ite_self]

theorem shift_trusted (xs : List (Option Rat)) (n : Int) (v : Option Rat) :
    (GenMap.shift.run xs n v).length = GenMap.shift.announced xs n v := by
  rw [shift_announced]
  simp only [GenMap.shift.run, decide_eq_true_eq]
  split_ifs with h1 h2 h3
  · exact List.length_replicate
  · simp only [List.length_append, List.length_replicate, List.length_take]
    exact C09.shift_pos_len h1
  · simp only [List.length_append, List.length_replicate, List.length_drop]
    exact Nat.sub_add_cancel (Nat.le_of_not_le h1)
  · rfl

/-- `vshift` is `shift` with the fill value defaulted to the null -/
theorem vshift_announced (xs : List (Option Rat)) (n : Int) (v : Option (Option Rat)) :
    GenMap.vshift.announced xs n v = xs.length :=
  shift_announced xs n (v.getD none)

theorem vshift_trusted (xs : List (Option Rat)) (n : Int) (v : Option (Option Rat)) :
    (GenMap.vshift.run xs n v).length = GenMap.vshift.announced xs n v :=
  shift_trusted xs n (v.getD none)

theorem vdiff_announced (xs : List (Option Rat)) (n : Int) (v : Option (Option Rat)) :
    GenMap.vdiff.announced xs n v = xs.length := by
  simp only [GenMap.vdiff.announced, ite_self]

theorem vdiff_trusted (xs : List (Option Rat)) (n : Int) (v : Option (Option Rat)) :
    (GenMap.vdiff.run xs n v).length = GenMap.vdiff.announced xs n v := by
  rw [vdiff_announced]
  simp only [GenMap.vdiff.run, decide_eq_true_eq]
  split_ifs with h1 h2
  · exact List.length_replicate
  · simp only [List.length_append, List.length_replicate, List.length_map, List.length_zip, List.length_take,
      List.length_drop]
    exact C09.vdiff_pos_len h1
  · simp only [List.length_append, List.length_replicate, List.length_map, List.length_zip, List.length_drop]
    exact C09.lag_neg_len h1

theorem vpct_change_announced (xs : List (Option Rat)) (n : Int) :
    GenMap.vpct_change.announced xs n = xs.length := by
  simp only [GenMap.vpct_change.announced, ite_self]

theorem vpct_change_trusted (xs : List (Option Rat)) (n : Int) :
    (GenMap.vpct_change.run xs n).length = GenMap.vpct_change.announced xs n := by
  rw [vpct_change_announced]
  simp only [GenMap.vpct_change.run, decide_eq_true_eq]
  split_ifs with h1 h2
  · exact List.length_replicate
  · simp only [List.length_append, List.length_replicate, List.length_map, List.length_zip, List.length_take]
    exact C09.vpct_pos_len h1
  · simp only [List.length_append, List.length_replicate, List.length_map, List.length_zip, List.length_drop]
    exact C09.lag_neg_len h1

theorem vclip_announced (xs : List (Option Rat)) (lo hi : Option Rat) :
    GenMap.vclip.announced xs lo hi = xs.length := by
  simp only [GenMap.vclip.announced]
  cases lo <;> cases hi <;> simp

theorem vclip_trusted (xs : List (Option Rat)) (lo hi : Option Rat) :
    (GenMap.vclip.run xs lo hi).length = GenMap.vclip.announced xs lo hi := by
  rw [C13Gen.vclip_eq]
  simp only [GenMap.vclip.announced, C13.vclip]
  cases lo <;> cases hi <;> simp

theorem fill_mask_trusted (xs : List (Option Rat)) (m : Option Rat → Bool) (v : Option Rat) :
    (GenMap.fill_mask.run xs m v).length = GenMap.fill_mask.announced xs m v := by
  simp [GenMap.fill_mask.run, GenMap.fill_mask.announced]

theorem fill_trusted (xs : List (Option Rat)) (v : Option Rat) :
    (GenMap.fill.run xs v).length = GenMap.fill.announced xs v := by
  simp [GenMap.fill.run, GenMap.fill.announced, fill_mask_trusted]

theorem ffill_mask_trusted (xs : List (Option Rat)) (m : Option Rat → Bool) (v : Option (Option Rat)) :
    (GenMap.ffill_mask.run xs m v).length = GenMap.ffill_mask.announced xs m v := by
  simp [GenMap.ffill_mask.run, GenMap.ffill_mask.announced, mapSt_length]

theorem ffill_trusted (xs : List (Option Rat)) (v : Option (Option Rat)) :
    (GenMap.ffill.run xs v).length = GenMap.ffill.announced xs v := by
  simp [GenMap.ffill.run, GenMap.ffill.announced, ffill_mask_trusted]

theorem bfill_mask_announced (xs : List (Option Rat)) (m : Option Rat → Bool) (v : Option (Option Rat)) :
    GenMap.bfill_mask.announced xs m v = xs.length := by
  simp [GenMap.bfill_mask.announced, mapSt_length]

theorem bfill_mask_trusted (xs : List (Option Rat)) (m : Option Rat → Bool) (v : Option (Option Rat)) :
    (GenMap.bfill_mask.run xs m v).length = GenMap.bfill_mask.announced xs m v := by
  simp [GenMap.bfill_mask.run, GenMap.bfill_mask.announced]

theorem bfill_trusted (xs : List (Option Rat)) (v : Option (Option Rat)) :
    (GenMap.bfill.run xs v).length = GenMap.bfill.announced xs v := by
  simp [GenMap.bfill.run, GenMap.bfill.announced, bfill_mask_trusted]

theorem abs_trusted (xs : List (Option Rat)) : (GenMap.abs.run xs).length = GenMap.abs.announced xs := by
  simp [GenMap.abs.run, GenMap.abs.announced]

theorem vabs_trusted (xs : List (Option Rat)) : (GenMap.vabs.run xs).length = GenMap.vabs.announced xs := by
  simp [GenMap.vabs.run, GenMap.vabs.announced]

/-- `vcut`: the call fails exactly when no length is announced, and otherwise yields what it announces -/
theorem vcut_trusted (xs : List (Option Rat)) (MIN MAX : Rat) (bins : List Rat) (labels : List (Option Rat))
    (right ab : Bool) :
    (GenMap.vcut.run xs MIN MAX bins labels right ab).map List.length
      = GenMap.vcut.announced xs MIN MAX bins labels right ab := by
  unfold GenMap.vcut.run GenMap.vcut.announced
  split
  · rfl
  · cases right <;> exact congrArg some (List.length_map _)

theorem announced_present :
    GenMap.shift.announcedParsed = true ∧ GenMap.vshift.announcedParsed = true ∧ GenMap.vdiff.announcedParsed = true ∧
    GenMap.vpct_change.announcedParsed = true ∧ GenMap.vclip.announcedParsed = true ∧
    GenMap.fill_mask.announcedParsed = true ∧ GenMap.fill.announcedParsed = true ∧
    GenMap.ffill_mask.announcedParsed = true ∧ GenMap.ffill.announcedParsed = true ∧
    GenMap.bfill_mask.announcedParsed = true ∧ GenMap.bfill.announcedParsed = true ∧
    GenMap.abs.announcedParsed = true ∧ GenMap.vabs.announcedParsed = true ∧ GenMap.vcut.announcedParsed = true := by
  decide
end Tv.C09Gen
