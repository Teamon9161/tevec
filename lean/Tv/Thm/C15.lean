import Tv.Lemmas.C15
import Tv.Lemmas.C15Ord
import Tv.Lemmas.C15Str
import Tv.Generated
/-!
# C15 — null and cast algebra is coherent across all element types

Property theorems. Part 1: every `IsNone` instance is `Lawful`. Part 2: the extracted macro
tables equal the tables the model is built from. Part 3: the cast laws on the whole numeric /
bool / Option lattice, and on the String and time arms. Part 4: the sort comparators are total
preorders ordering non-nulls by value with nulls last in both directions; then `vabs`, `into_cast`
and concrete values that satisfy the hypotheses.
-/
namespace Tv.C15

/-! ## Part 1 — the instances -/

/-- an instance given by a null test `isN` and a null value `nv` (floats, strings, the time types)
is lawful on every set of values in which `nv` is the only null -/
theorem lawful_of_test (isN : Val → Bool) (nv : Val) (C : Val → Prop) (hnv : isN nv = true)
    (hC : ∀ x, C x → isN x = true → x = nv) :
    Lawful (⟨isN, fun x => !isN x, fun x => if isN x then none else some x,
      fun x => if isN x then none else some x, .ok nv, id, .ok, some⟩ : NullRepr Val Val) C where
  isNone_iff_toOpt x := by cases h : isN x <;> simp [h]
  notNone_eq_not _ := rfl
  asOpt_eq_toOpt _ := rfl
  none_isNone n h := by cases h; exact hnv
  fromInner_unwrap x _ _ := ⟨x, rfl, rfl⟩
  fromOpt_toOpt x hx := by
    cases h : isN x
    · simp only [h, Bool.false_eq_true, if_false]; rfl
    · rw [hC x hx h]; simp only [hnv, if_true, NullRepr.fromOpt]

/-- `impl IsNone for f32 / f64` satisfies every law (all values are canonical) -/
theorem floatRepr_lawful : Lawful floatRepr (fun _ => True) :=
  lawful_of_test isNanV (.flt .nan) _ rfl fun x _ h => (isNanV_iff x).1 h

/-- the `impl_not_none!` instance (bool, u8, i32, i64, isize, u64, usize) satisfies every law;
`none()` panics, so `none_isNone` holds vacuously -/
theorem neverRepr_lawful : Lawful neverRepr (fun _ => True) where
  isNone_iff_toOpt _ := rfl
  notNone_eq_not _ := rfl
  asOpt_eq_toOpt _ := rfl
  none_isNone n h := by cases h
  fromInner_unwrap x _ _ := ⟨x, rfl, rfl⟩
  fromOpt_toOpt _ _ := rfl

/-- `impl IsNone for String` / `&str` -/
theorem strRepr_lawful : Lawful strRepr (fun _ => True) :=
  lawful_of_test isNoneStr (.str "None") _ rfl fun x _ h => (isNoneStr_iff x).1 h

/-- `impl IsNone for DateTime<U>` / `Time` on stored integers -/
theorem timeRepr_lawful : Lawful timeRepr (fun x => ∃ i, x = .int i) :=
  lawful_of_test isNatV (.int i64Min) _ rfl fun x ⟨i, hi⟩ h => by
    subst hi; exact congrArg Val.int (eq_of_beq h)

/-- `impl IsNone for TimeDelta`; canonical NaT is `{ months: i32::MIN, inner: 0 }` -/
theorem tdRepr_lawful : Lawful tdRepr (fun x => ∃ m n, x = .td m n ∧ (m = i32Min → n = 0)) :=
  lawful_of_test isNatV (.td i32Min 0) _ rfl fun x ⟨m, n, hx, hn⟩ h => by
    subst hx
    have hm : m = i32Min := eq_of_beq h
    rw [hm, hn hm]

/-- `impl<T: IsNone<Inner = T>> IsNone for Option<T>` is lawful on canonical values (no
`Some(null)`), whatever `T`'s instance -/
theorem optionRepr_lawful {R : NullRepr ι ι} {C : ι → Prop} : Lawful (optionRepr R) (CanonOpt R C) where
  isNone_iff_toOpt _ := rfl
  notNone_eq_not x := by cases x <;> rfl
  asOpt_eq_toOpt _ := rfl
  none_isNone n h := by simp only [optionRepr] at h ⊢; cases h; rfl
  fromInner_unwrap x hx hn := by
    cases x with
    | none => simp [optionRepr] at hn
    | some v => exact ⟨v, rfl, by simp only [optionRepr]; rw [hx.2]; rfl⟩
  fromOpt_toOpt x hx := by
    cases x with
    | none => rfl
    | some v => simp only [optionRepr, NullRepr.fromOpt, id]; rw [hx.2]; rfl

/-- **every supported element type is lawful** on its well-typed values -/
theorem reprOf_lawful (b : Base) : Lawful (reprOf b) (ValOf b) := by
  cases b
  case f32 | f64 => exact floatRepr_lawful.mono fun _ _ => trivial
  case str | sref => exact strRepr_lawful.mono fun _ _ => trivial
  case dt | time => exact timeRepr_lawful.mono fun _ hx => hx.shape
  case td =>
    exact tdRepr_lawful.mono fun x hx => by
      obtain ⟨m, n, rfl⟩ := hx.shape
      exact ⟨m, n, rfl, hx.2.2⟩
  all_goals exact neverRepr_lawful.mono fun _ _ => trivial

/-- the `Option` form of every supported element type is lawful on canonical values -/
theorem optionRepr_reprOf_lawful (b : Base) :
    Lawful (optionRepr (reprOf b)) (CanonOpt (reprOf b) (ValOf b)) :=
  optionRepr_lawful

/-! ## Part 2 — the extracted macro tables -/

/-- the `impl_numeric_cast!` invocations found in `cast.rs` by the translator are exactly the
pairs the model (and, through the generated include, the harness) instantiates -/
theorem castPairs_matches : Generated.castPairs = castPairs := by decide +kernel

/-- `impl_not_none!(...)` in `isnone.rs` names exactly the never-null types of the model -/
theorem notNoneTypes_matches : Generated.notNoneTypes = notNoneTypes := by decide

/-- `impl_time_cast!(...)` in `cast.rs` names exactly the time-cast targets of the model -/
theorem timeCastTypes_matches : Generated.timeCastTypes = timeCastTypes := by decide

/-- every extracted pair is a pair of distinct numeric base types of the model, and all
`8 · 7 = 56` ordered pairs of distinct numeric types are present -/
theorem castPairs_complete :
    (∀ p ∈ Generated.castPairs, isNumPair p = true) ∧
    (∀ s ∈ numTys, ∀ d ∈ numTys, s ≠ d → (s, d) ∈ Generated.castPairs) := by
  rw [castPairs_matches]
  -- `castPairs` lists, for each source, its targets: membership is looked up in the source's row
  have mem : ∀ s d, s ∈ numTys → d ∈ castTargets s → (s, d) ∈ castPairs := fun s d hs hd =>
    List.mem_flatMap.2 ⟨s, hs, List.mem_map.2 ⟨d, hd, rfl⟩⟩
  exact ⟨by decide +kernel, fun s hs d hd hne => mem s d hs
    ((by decide +kernel : ∀ s ∈ numTys, ∀ d ∈ numTys, s ≠ d → d ∈ castTargets s) s hs d hd hne)⟩

/-- every type of `impl_not_none!` gets the never-null instance and the `sort_cmp` override -/
theorem notNoneTypes_instances :
    ∀ n ∈ Generated.notNoneTypes, ((Base.ofName n).map Base.notNoneImpl) = some true := by
  rw [notNoneTypes_matches]; decide +kernel

/-! ## Part 3 — the cast laws -/

/-- **uniformity of the lattice**: for all 18 x 18 pairs among the numeric types, bool and their
`Option` forms, whatever impl the compiler selects (one of the four `impl_numeric_cast!` arms, the
identity / blanket / `Option<T> → T` impls, the eight bool arms, the hand-written bool impls)
computes the same four-arm scheme around the plain conversion `convL` -/
theorem castModel_lattice (s d : Ty) (hs : s.base.inLattice = true) (hd : d.base.inLattice = true)
    (x : XV) : castModel s d x = liftCast (convL s.base d.base) s d x := by
  obtain ⟨sb, so⟩ := s
  obtain ⟨db, dopt⟩ := d
  simp only at hs hd
  have hnb : Base.isNum .bool = false := rfl
  rcases inLattice_cases sb hs with ⟨hsn, hsb⟩ | rfl
  · rcases inLattice_cases db hd with ⟨hdn, hdb⟩ | rfl
    · by_cases e : (sb == db) = true
      · have := eq_of_beq e; subst this
        simp only [castModel, castModelAt, hsn, if_true, beq_self_eq_true, convL_same, castSame_eq]
      · have e' : (sb == db) = false := by simpa using e
        simp only [castModel, castModelAt, hsn, hdn, if_true, e', convL_num sb db e' hdb hsb, castNumNum_eq,
          Bool.false_eq_true, if_false]
    · simp only [castModel, castModelAt, hsn, hnb, if_true, convL_toBool sb hsb, beq_self_eq_true,
        castNumBool_eq, Bool.false_eq_true, if_false]
  · rcases inLattice_cases db hd with ⟨hdn, hdb⟩ | rfl
    · simp only [castModel, castModelAt, hnb, hdn, if_true, convL_fromBool db hdb, beq_self_eq_true,
        castBoolNum_eq, Bool.false_eq_true, if_false]
    · simp only [castModel, castModelAt, hnb, convL_same, beq_self_eq_true, if_true, castBoolBool_eq,
        Bool.false_eq_true, if_false]

/-- **a null goes to the target's null** ("null to float gives NaN, to optional gives None"): for a
nullable target the cast of a null is exactly `None` resp. `<D as IsNone>::none()` -/
theorem cast_null_value (s d : Ty) (hs : s.base.inLattice = true) (hd : d.base.inLattice = true)
    (x : XV) (hx : Typed s x) (hn : d.nullable = true) (hnull : xvIsNone s x = true) :
    castModel s d x = nullXV d := by
  rw [castModel_lattice s d hs hd]
  obtain ⟨sb, so⟩ := s
  obtain ⟨db, dopt⟩ := d
  rcases hx.shape with ⟨a, rfl, rfl, ha⟩ | ⟨rfl, rfl⟩ | ⟨a, rfl, rfl, _⟩
  · cases dopt
    · -- the one null that goes through the plain conversion: a NaN into a float type, `NaN as f32 = NaN`
      obtain ⟨f, hf⟩ := lattice_nullable_plain ⟨db, false⟩ hd rfl hn
      rcases inLattice_cases sb hs with ⟨hsn, _⟩ | rfl
      · obtain rfl := (isNanV_iff a).1 ((isNoneOf_eq_isNanV sb hsn a ha).symm.trans hnull)
        show (convL sb db _).map XV.v = (noneOf db).map XV.v
        rw [convL_nan sb db hsn f hf, noneOf_flt db f hf]
      · cases hnull
    · exact if_pos hnull
  · cases dopt <;> rfl
  · cases hnull

/-- **agreement with the language on non-null values**: the cast of a value whose `to_opt` is
`Some v` is the plain conversion of `v`, re-wrapped for the target -/
theorem cast_val (s d : Ty) (hs : s.base.inLattice = true) (hd : d.base.inLattice = true)
    (x : XV) (v : Val) (hx : Typed s x) (hv : innerOf s x = some v) :
    castModel s d x = (convL s.base d.base v).map (wrapXV d) := by
  rw [castModel_lattice s d hs hd]; exact liftCast_val _ s d x v hx hv

/-- **null-ness is preserved** (18 x 18 lattice): when the target can represent a null, the result
of a cast is null exactly when the (typed, canonical) argument is — a null is never turned into a
value, a value never into a null. Targets without a null (`i32`, `bool`, ...) are excluded:
there `NaN as i32 = 0` and `None` panics. -/
theorem cast_null (s d : Ty) (hs : s.base.inLattice = true) (hd : d.base.inLattice = true)
    (x y : XV) (hx : Typed s x) (hn : d.nullable = true) (h : castModel s d x = .ok y) :
    xvIsNone d y = xvIsNone s x := by
  rcases hx.null_or_inner with hnull | ⟨v, hv, hnn, hvn, hval⟩
  · rw [cast_null_value s d hs hd x hx hn hnull] at h
    rw [hnull]; exact nullXV_isNone d y h
  · rw [cast_val s d hs hd x v hx hv] at h
    obtain ⟨w, hc, rfl⟩ := Res.map_eq_ok h
    rw [hnn]
    obtain ⟨db, dopt⟩ := d
    cases dopt
    · obtain ⟨f, hf⟩ := lattice_nullable_plain _ hd rfl hn
      exact (convL_null s.base db hs f hf v w hval hc).trans hvn
    · rfl

/-- for every extracted `impl_numeric_cast!` pair the plain conversion *is* Rust's `as`
(value-class semantics `asNum`: wrap, saturate with NaN ↦ 0, round to nearest even), so by
`cast_val` all four arms agree with `as` on non-null values -/
theorem cast_val_as (s d : Ty) (hs : s.base.isNum = true) (hd : d.base.isNum = true)
    (hne : s.base ≠ d.base) (x : XV) (v : Val) (hx : Typed s x) (hv : innerOf s x = some v) :
    castModel s d x = .ok (wrapXV d (asNum d.base v)) := by
  have hs' : s.base.inLattice = true := by simp [Base.inLattice, hs]
  have hd' : d.base.inLattice = true := by simp [Base.inLattice, hd]
  rw [cast_val s d hs' hd' x v hx hv]
  have e : (s.base == d.base) = false := by simpa using hne
  rw [convL_num s.base d.base e (isNum_class _ hd).1 (isNum_class _ hs).1]
  rfl

/-- same source and target base: the value is passed through unchanged -/
theorem cast_val_same (s d : Ty) (hs : s.base.inLattice = true) (he : s.base = d.base)
    (x : XV) (v : Val) (hx : Typed s x) (hv : innerOf s x = some v) :
    castModel s d x = .ok (wrapXV d v) := by
  rw [cast_val s d hs (he ▸ hs) x v hx hv, ← he, convL_same]; rfl

/-- **composition through `Option` on the source side**: `Some(v)` casts like `v`, `None` casts
to the target's null (`None`, NaN, or the "no null" panic) -/
theorem cast_opt_left (sb : Base) (d : Ty) (hs : sb.inLattice = true) (hd : d.base.inLattice = true) :
    (∀ v, isNoneOf sb v = false → castModel ⟨sb, true⟩ d (.o (some v)) = castModel ⟨sb, false⟩ d (.v v)) ∧
    castModel ⟨sb, true⟩ d (.o none) = nullXV d := by
  obtain ⟨db, dopt⟩ := d
  refine ⟨fun v hv => ?_, ?_⟩
  · rw [castModel_lattice ⟨sb, true⟩ _ hs hd, castModel_lattice ⟨sb, false⟩ _ hs hd]
    cases dopt <;> simp [liftCast, hv]
  · rw [castModel_lattice ⟨sb, true⟩ _ hs hd]
    cases dopt <;> simp [liftCast, nullXV]

/-- **composition through `Option` on the target side**: casting into `Option<D>` is `None` for a
null and `Some` of the cast into `D` otherwise -/
theorem cast_opt_right (s : Ty) (db : Base) (hs : s.base.inLattice = true) (hd : db.inLattice = true)
    (x : XV) (hx : Typed s x) :
    castModel s ⟨db, true⟩ x =
      if xvIsNone s x then .ok (.o none) else (castModel s ⟨db, false⟩ x).map toOptXV := by
  rcases hx.null_or_inner with hnull | ⟨v, hv, hnn, _, _⟩
  · rw [hnull]; exact cast_null_value s ⟨db, true⟩ hs hd x hx rfl hnull
  · rw [hnn, if_neg Bool.false_ne_true, cast_val s ⟨db, true⟩ hs hd x v hx hv,
      cast_val s ⟨db, false⟩ hs hd x v hx hv, Res.map_map]
    rfl

/-! ### String and time arms (repaired tree) and the witnesses of the pinned behaviour -/

/-- numeric / bool → `String`: a null gives the null string `"None"`, a non-null its `to_string`,
and `Option` composes (`Some(v)` like `v`, `None` ↦ `"None"`) -/
theorem cast_str (sb : Base) (hs : sb.inLattice = true) :
    (∀ a, castModel ⟨sb, false⟩ ⟨.str, false⟩ (.v a) =
      .ok (.v (.str (if isNoneOf sb a then "None" else displayVal a)))) ∧
    (∀ v, castModel ⟨sb, true⟩ ⟨.str, false⟩ (.o (some v)) = .ok (.v (.str (displayVal v)))) ∧
    castModel ⟨sb, true⟩ ⟨.str, false⟩ (.o none) = .ok (.v (.str "None")) := by
  rcases inLattice_cases sb hs with ⟨hsn, _⟩ | rfl
  · refine ⟨fun a => ?_, fun v => ?_, ?_⟩ <;> rw [castModel, castModelAt_num_str _ _ _ _ hsn]
    · exact congrArg (fun w => Res.ok (XV.v w)) (apply_ite Val.str ..).symm
    · rfl
    · rfl
  · exact ⟨fun a => rfl, fun v => rfl, rfl⟩

/-- pinned tree: `f64::NAN.cast::<String>()` was `"NaN"`, which is not a null string -/
theorem nan_to_str_pinned_wrong :
    castModelAt true ⟨.f64, false⟩ ⟨.str, false⟩ (.v (.flt .nan)) = .ok (.v (.str "NaN")) ∧
    isNoneStr (.str "NaN") = false := by decide

/-- **numeric / bool → String preserves null-ness in both directions**: the result is the null
string exactly when the (typed) argument is null — `to_string` of a number or bool is never
`"None"` -/
theorem cast_str_null (s : Ty) (hs : s.base.inLattice = true) (x : XV) (hx : Typed s x) (y : XV)
    (h : castModel s ⟨.str, false⟩ x = .ok y) : xvIsNone ⟨.str, false⟩ y = xvIsNone s x := by
  obtain ⟨sb, so⟩ := s
  have hstr : ∀ t : String, isNoneOf .str (.str t) = (t == "None") := fun _ => rfl
  obtain ⟨c1, c2, c3⟩ := cast_str sb hs
  rcases hx.shape with ⟨a, rfl, rfl, ha⟩ | ⟨rfl, rfl⟩ | ⟨a, rfl, rfl, ha, hnn⟩
  · rw [c1 a] at h; cases h
    simp only [xvIsNone, hstr]
    by_cases hn : isNoneOf sb a = true
    · simp [hn]
    · have := displayVal_ne_None sb hs a ha
      simp [hn, this]
  · rw [c3] at h; cases h; rfl
  · rw [c2 a] at h; cases h
    have := displayVal_ne_None sb hs a ha
    simp [xvIsNone, hstr, this]

/-- pinned tree: `Some(true).cast::<String>()` was `"Some(true)"` while `true.cast::<String>()`
is `"true"` — the cast did not compose through `Option` -/
theorem optbool_to_str_pinned_wrong :
    castModelAt true ⟨.bool, true⟩ ⟨.str, false⟩ (.o (some (.bool true))) = .ok (.v (.str "Some(true)")) ∧
    castModelAt true ⟨.bool, false⟩ ⟨.str, false⟩ (.v (.bool true)) = .ok (.v (.str "true")) := by decide

/-- numeric → `DateTime` / `TimeDelta` / `Time`: a null gives NaT; a non-null goes through
`as i64` (where the in-band sentinel `i64::MIN` *is* NaT); `Option` composes -/
theorem cast_time (sb db : Base) (hs : sb.isNum = true) (hd : db.isTime = true) :
    (∀ a, castModel ⟨sb, false⟩ ⟨db, false⟩ (.v a) =
      .ok (.v (if isNoneOf sb a then natOf db else fromRaw db (raw64 sb a)))) ∧
    (∀ v, castModel ⟨sb, true⟩ ⟨db, false⟩ (.o (some v)) = castModel ⟨sb, false⟩ ⟨db, false⟩ (.v v)) ∧
    castModel ⟨sb, true⟩ ⟨db, false⟩ (.o none) = .ok (.v (natOf db)) := by
  refine ⟨fun a => ?_, fun v => ?_, ?_⟩ <;> simp only [castModel, castModelAt_num_time _ _ _ _ _ hs hd]
  · exact congrArg (fun w => Res.ok (XV.v w)) (apply_ite id ..).symm
  · rfl
  · rfl

/-- the NaT produced for a null is a null of the time type, and a non-null source gives NaT only
through the sentinel -/
theorem cast_time_null (sb db : Base) (hs : sb.isNum = true) (hd : db.isTime = true) (a : Val) (y : XV)
    (h : castModel ⟨sb, false⟩ ⟨db, false⟩ (.v a) = .ok y) :
    xvIsNone ⟨db, false⟩ y = (isNoneOf sb a || raw64 sb a == i64Min) := by
  rw [(cast_time sb db hs hd).1 a] at h
  cases h
  show isNoneOf db _ = _
  rw [isNoneOf_time db hd]
  cases isNoneOf sb a
  · exact isNatV_fromRaw db _
  · exact isNatV_natOf db

/-- pinned tree: `f64::NAN.cast::<DateTime>()` was the epoch, not NaT -/
theorem nan_to_time_pinned_wrong :
    castModelAt true ⟨.f64, false⟩ ⟨.dt, false⟩ (.v (.flt .nan)) = .ok (.v (.int 0)) ∧
    isNatV (.int 0) = false := by decide

-- being NaT decides both arms: the typing hypothesis `hv` plays no part in the proof
set_option linter.unusedVariables false in
/-- time → float (repaired `impl_time_cast!`): NaT gives NaN -/
theorem cast_nat_to_float (tb db : Base) (ht : tb.isTime = true) (f : FltTy) (hf : db.fltTy = some f)
    (x : Val) (hx : isNatV x = true) (hv : ValOf tb x) :
    castModel ⟨tb, false⟩ ⟨db, false⟩ (.v x) = .ok (.v (.flt .nan)) ∧
    castModel ⟨tb, false⟩ ⟨db, true⟩ (.v x) = .ok (.o none) := by
  obtain ⟨_, hnum, hbool, hi64⟩ := fltTy_class db f hf
  have hd : (db.isNum || db == .bool) = true := by rw [hnum]; rfl
  constructor <;> rw [castModel, castModelAt_time_num _ _ _ _ _ ht hd]
  · simp only [castTimeNum, timeTo, hi64, hbool, hx, arm1, asNum_nan db f hf, Bool.false_eq_true, if_false,
      if_true, Res.map]
  · simp only [castTimeNum, timeToOpt, hi64, hx, Bool.false_eq_true, if_false, if_true, Res.map]

/-- pinned tree: `DateTime::nat().cast::<f64>()` went through `i64::MIN as f64` and was not NaN -/
theorem nat_to_float_pinned_wrong :
    ∃ v, castModelAt true ⟨.dt, false⟩ ⟨.f64, false⟩ (.v (.int i64Min)) = .ok (.v (.flt v)) ∧ v ≠ .nan := by
  refine ⟨roundFlt f64Ty ((i64Min : Int) : Rat), ?_, roundFlt_ne_nan _ _⟩
  simp [castModelAt, castTimeNum, timeTo, timeToI64, i64To, Res.bind, Res.map, arm1, asNum,
    Base.isNum, Base.intTy, Base.fltTy, Base.isTime, Base.isStr]

/-- pinned tree: `TimeDelta::nat().cast::<Option<i64>>()` panicked; repaired: `None` -/
theorem nat_td_to_opt_i64_pinned_wrong :
    castModelAt true ⟨.td, false⟩ ⟨.i64, true⟩ (.v (.td i32Min 0)) = .panic ∧
    castModel ⟨.td, false⟩ ⟨.i64, true⟩ (.v (.td i32Min 0)) = .ok (.o none) := by decide

/-- `String` / `&str` → `Option<T>` (`impl_cast_from_string!`): the null string gives `None`, any
other string gives `Some` of its `parse` (or the parse panic) — never `None` -/
theorem cast_from_str_null (sb db : Base) (hs : sb.isStr = true) (hd : (db.isNum || db == .bool) = true)
    (t : String) (y : XV) (h : castModel ⟨sb, false⟩ ⟨db, true⟩ (.v (.str t)) = .ok y) :
    xvIsNone ⟨db, true⟩ y = (t == "None") := by
  rw [castModel, castModelAt_str_num _ _ _ _ _ hs hd] at h
  simp only [castStrNum, strToOpt] at h
  cases e : t == "None" <;> rw [e] at h
  · obtain ⟨o, ho, rfl⟩ := Res.map_eq_ok h
    obtain ⟨w, _, rfl⟩ := Res.map_eq_ok ho
    rfl
  · cases h; rfl

/-- known finding F-C15-1 (not repaired): the null *string* cast to a float panics
(`"None".parse::<f64>()` fails) although `Option<f64>` gets `None`; the full-strength string law
`cast (str "None") = NaN` therefore does not hold for the tree -/
theorem none_str_to_float_known :
    castModel ⟨.str, false⟩ ⟨.f64, false⟩ (.v (.str "None")) = .panic ∧
    castModel ⟨.str, false⟩ ⟨.f64, true⟩ (.v (.str "None")) = .ok (.o none) := by decide +kernel

/-! ## Part 4 — the sort comparators

Generic over an instance `R : NullRepr α ι`, its `partial_cmp` (`pcmp`), canonical values `C`
and valid inner values `V` (`OrdSetup`); instantiated for every base type and its `Option`
form by `ordSetup_plain` / `ordSetup_option`. `sortCmp … a b ≠ .gt` is the `≤` that
`slice::sort_by` uses. -/

section Order
variable {α ι : Type} {R : NullRepr α ι} {pcmp : ι → ι → Option Ordering} {C : α → Prop} {V : ι → Prop}

/-- `sort_cmp` orders non-null values by value: it returns what `partial_cmp` returns on the
inner values, and `sort_cmp_rev` returns the reverse -/
theorem sortCmp_by_value (S : OrdSetup R pcmp C V) (inn : ι → Bool) (a b : α) (ha : C a) (hb : C b)
    (va vb : ι) (hva : R.asOpt a = some va) (hvb : R.asOpt b = some vb) :
    ∃ o, pcmp va vb = some o ∧ sortCmp R inn pcmp a b = o ∧ sortCmpRev R inn pcmp a b = o.swap := by
  obtain ⟨o, ho⟩ := S.porder.total va vb (S.valid a va ha hva) (S.valid b vb hb hvb)
  exact ⟨o, ho, by simp [sortCmp, hva, hvb, ho], by simp [sortCmpRev, hva, hvb, ho]⟩

/-- antisymmetry in the strong form Rust's sort needs: `cmp(b, a)` is the reverse of `cmp(a, b)` -/
theorem sortCmp_swap (S : OrdSetup R pcmp C V) (inn : ι → Bool) (a b : α) (ha : C a) (hb : C b) :
    sortCmp R inn pcmp b a = (sortCmp R inn pcmp a b).swap := by
  rw [sortCmp_eq_cmpNL, sortCmp_eq_cmpNL]
  exact cmpNL_swap (S.porder.toC _) _ _ (fun v => S.valid a v ha) (fun v => S.valid b v hb)

theorem sortCmp_total (S : OrdSetup R pcmp C V) (inn : ι → Bool) (a b : α) (ha : C a) (hb : C b) :
    sortCmp R inn pcmp a b ≠ .gt ∨ sortCmp R inn pcmp b a ≠ .gt := by
  rw [sortCmp_swap S inn a b ha hb]
  cases sortCmp R inn pcmp a b <;> simp [Ordering.swap]

theorem sortCmp_trans (S : OrdSetup R pcmp C V) (inn : ι → Bool) (a b c : α) (ha : C a) (hb : C b) (hc : C c)
    (h1 : sortCmp R inn pcmp a b ≠ .gt) (h2 : sortCmp R inn pcmp b c ≠ .gt) :
    sortCmp R inn pcmp a c ≠ .gt := by
  rw [sortCmp_eq_cmpNL] at h1 h2 ⊢
  exact cmpNL_le_trans (S.porder.toC _) _ _ _ (fun v => S.valid a v ha) (fun v => S.valid b v hb)
    (fun v => S.valid c v hc) h1 h2

/-- `Equal` only for equal values (the preorder is an order on canonical values) -/
theorem sortCmp_antisymm_eq (S : OrdSetup R pcmp C V) (inn : ι → Bool) (a b : α) (ha : C a) (hb : C b) :
    sortCmp R inn pcmp a b = .eq ↔ a = b := by
  rw [sortCmp_eq_cmpNL, cmpNL_eq_iff (S.porder.toC _) _ _ (fun v => S.valid a v ha) (fun v => S.valid b v hb)]
  exact ⟨S.inj a b ha hb, fun h => h ▸ rfl⟩

/-- **nulls last, ascending**: a null is `Greater` than every non-null -/
theorem sortCmp_nulls_last (S : OrdSetup R pcmp C V) (inn : ι → Bool) (a b : α)
    (ha : R.isNone a = true) (hb : R.isNone b = false) :
    sortCmp R inn pcmp a b = .gt ∧ sortCmp R inn pcmp b a = .lt := by
  rw [S.null_iff] at ha hb
  rw [sortCmp_eq_cmpNL, sortCmp_eq_cmpNL]
  exact cmpNL_nulls_last _ ha hb

/-- **nulls last, descending too**: `sort_cmp_rev` also puts a null after every non-null -/
theorem sortCmpRev_nulls_last (S : OrdSetup R pcmp C V) (inn : ι → Bool) (a b : α)
    (ha : R.isNone a = true) (hb : R.isNone b = false) :
    sortCmpRev R inn pcmp a b = .gt ∧ sortCmpRev R inn pcmp b a = .lt := by
  rw [S.null_iff] at ha hb
  rw [sortCmpRev_eq_cmpNL, sortCmpRev_eq_cmpNL]
  exact cmpNL_nulls_last _ ha hb

/-- on non-null values `sort_cmp_rev` is exactly the reverse of `sort_cmp`; two nulls are `Equal`
under both -/
theorem sortCmpRev_eq_reverse_on_valid (S : OrdSetup R pcmp C V) (inn : ι → Bool) (a b : α) (ha : C a) (hb : C b) :
    (R.isNone a = false → R.isNone b = false →
      sortCmpRev R inn pcmp a b = (sortCmp R inn pcmp a b).swap) ∧
    (R.isNone a = true → R.isNone b = true →
      sortCmpRev R inn pcmp a b = .eq ∧ sortCmp R inn pcmp a b = .eq) := by
  constructor
  · intro h1 h2
    rw [S.null_iff] at h1 h2
    cases hva : R.asOpt a with
    | none => simp [hva] at h1
    | some va =>
      cases hvb : R.asOpt b with
      | none => simp [hvb] at h2
      | some vb =>
        obtain ⟨o, _, e1, e2⟩ := sortCmp_by_value S inn a b ha hb va vb hva hvb
        rw [e1, e2]
  · intro h1 h2
    rw [S.null_iff, Option.isNone_iff_eq_none] at h1 h2
    rw [sortCmpRev_eq_cmpNL, sortCmp_eq_cmpNL, h1, h2]
    exact ⟨rfl, rfl⟩

theorem sortCmpRev_swap (S : OrdSetup R pcmp C V) (inn : ι → Bool) (a b : α) (ha : C a) (hb : C b) :
    sortCmpRev R inn pcmp b a = (sortCmpRev R inn pcmp a b).swap := by
  rw [sortCmpRev_eq_cmpNL, sortCmpRev_eq_cmpNL]
  exact cmpNL_swap (S.porder.toC _).rev _ _ (fun v => S.valid a v ha) (fun v => S.valid b v hb)

theorem sortCmpRev_total (S : OrdSetup R pcmp C V) (inn : ι → Bool) (a b : α) (ha : C a) (hb : C b) :
    sortCmpRev R inn pcmp a b ≠ .gt ∨ sortCmpRev R inn pcmp b a ≠ .gt := by
  rw [sortCmpRev_swap S inn a b ha hb]
  cases sortCmpRev R inn pcmp a b <;> simp [Ordering.swap]

theorem sortCmpRev_trans (S : OrdSetup R pcmp C V) (inn : ι → Bool) (a b c : α) (ha : C a) (hb : C b) (hc : C c)
    (h1 : sortCmpRev R inn pcmp a b ≠ .gt) (h2 : sortCmpRev R inn pcmp b c ≠ .gt) :
    sortCmpRev R inn pcmp a c ≠ .gt := by
  rw [sortCmpRev_eq_cmpNL] at h1 h2 ⊢
  exact cmpNL_le_trans (S.porder.toC _).rev _ _ _ (fun v => S.valid a v ha) (fun v => S.valid b v hb)
    (fun v => S.valid c v hc) h1 h2

theorem sortCmpRev_antisymm_eq (S : OrdSetup R pcmp C V) (inn : ι → Bool) (a b : α) (ha : C a) (hb : C b) :
    sortCmpRev R inn pcmp a b = .eq ↔ a = b := by
  rw [sortCmpRev_eq_cmpNL, cmpNL_eq_iff (S.porder.toC _).rev _ _ (fun v => S.valid a v ha) (fun v => S.valid b v hb)]
  exact ⟨S.inj a b ha hb, fun h => h ▸ rfl⟩

/-- in any list sorted by `sort_cmp` (resp. `sort_cmp_rev`) no null precedes a non-null -/
theorem sorted_nulls_last (S : OrdSetup R pcmp C V) (inn : ι → Bool) (l : List α) :
    (l.Pairwise (fun a b => sortCmp R inn pcmp a b ≠ .gt) →
      l.Pairwise (fun a b => R.isNone a = true → R.isNone b = true)) ∧
    (l.Pairwise (fun a b => sortCmpRev R inn pcmp a b ≠ .gt) →
      l.Pairwise (fun a b => R.isNone a = true → R.isNone b = true)) := by
  constructor <;> intro h <;> refine h.imp ?_ <;> intro a b hab ha
  · cases hb : R.isNone b with
    | true => rfl
    | false => exact absurd (sortCmp_nulls_last S inn a b ha hb).1 hab
  · cases hb : R.isNone b with
    | true => rfl
    | false => exact absurd (sortCmpRev_nulls_last S inn a b ha hb).1 hab

end Order

/-- the `impl_not_none!` override of `sort_cmp` (`partial_cmp().unwrap()`) never panics on valid
values and agrees with the default body -/
theorem sortCmpNotNone_eq_default (b : Base) (hb : b.notNoneImpl = true) (x y : Val)
    (hx : Valid b x) (hy : Valid b y) (inn : Val → Bool) :
    sortCmpNotNone pcmpVal x y = .ok (sortCmp (reprOf b) inn pcmpVal x y) := by
  obtain ⟨o, ho⟩ := (pcmpVal_porder b).total x y hx hy
  rw [notNoneImpl_repr b hb]
  simp [sortCmpNotNone, sortCmp, neverRepr, ho]

/-- every base type (f32, f64, the integers, bool, String, &str, DateTime, TimeDelta, Time)
satisfies the hypotheses of the comparator theorems on its well-typed values -/
theorem ordSetup_plain (b : Base) : OrdSetup (reprOf b) pcmpVal (ValOf b) (Valid b) where
  porder := pcmpVal_porder b
  valid a v ha h := by
    rw [reprOf_asOpt] at h
    obtain ⟨hn, e⟩ := Option.ite_none_left_eq_some.1 h
    cases e
    exact ⟨ha, Bool.eq_false_iff.2 hn⟩
  inj x y hx hy h := by
    rw [reprOf_asOpt, reprOf_asOpt] at h
    by_cases nx : isNoneOf b x = true <;> by_cases ny : isNoneOf b y = true <;> simp [nx, ny] at h
    · exact Res.ok.inj (((reprOf_lawful b).noneV_eq hx nx).symm.trans ((reprOf_lawful b).noneV_eq hy ny))
    · exact h
  null_iff := reprOf_null_iff b

/-- `Option<T>` of every base type satisfies the hypotheses of the comparator theorems on its canonical values -/
theorem ordSetup_option (b : Base) :
    OrdSetup (optionRepr (reprOf b)) pcmpVal (CanonOpt (reprOf b) (ValOf b)) (Valid b) where
  porder := pcmpVal_porder b
  valid a v ha h := by
    simp only [optionRepr, id] at h; subst h
    exact ⟨ha.1, ha.2⟩
  inj _ _ _ _ h := h
  null_iff _ := rfl

/-! ## `vabs` and `into_cast` -/

/-- `abs` (floats, signed, unsigned — `impl_number!`) never changes null-ness -/
theorem absVal_null (b : Base) (v w : Val) (h : absVal b v = .ok w) : isNoneOf b w = isNoneOf b v := by
  cases v with
  | flt x =>
    cases x <;> cases h <;> simp only [isNoneOf_flt_val, isNanV]
  | int i =>
    cases hb : b.intTy with
    | none => simp only [absVal, hb] at h; cases h; rfl
    | some t =>
      simp only [absVal, hb] at h
      split at h
      · cases h
      · cases h; rw [isNoneOf_int b (by rw [hb]; rfl), isNoneOf_int b (by rw [hb]; rfl)]
  | bool _ => cases h; rfl
  | str _ => cases h; rfl
  | td _ _ => cases h; rfl

/-- **`vabs` preserves null-ness** on the plain types -/
theorem vabs_null_iff_plain (b : Base) (x y : Val) (h : (reprOf b).vabs (absVal b) x = .ok y) :
    (reprOf b).isNone y = (reprOf b).isNone x := by
  have hm : (reprOf b).mapArg x = some x := by cases b <;> rfl
  have hf : ∀ v, (reprOf b).fromInner v = v := by intro v; cases b <;> rfl
  simp only [NullRepr.vabs, NullRepr.map, hm] at h
  obtain ⟨w, hw, rfl⟩ := Res.map_eq_ok h
  rw [hf]; exact absVal_null b x w hw

/-- `vabs` preserves null-ness on `Option<T>` (canonical values): `None.vabs() = None`, `Some(v).vabs() = Some(|v|)` -/
theorem vabs_null_iff_option (b : Base) (x y : Option Val) (hx : CanonOpt (reprOf b) (ValOf b) x)
    (h : (optionRepr (reprOf b)).vabs (absVal b) x = .ok y) : y.isNone = x.isNone := by
  cases x with
  | none => simp [NullRepr.vabs, NullRepr.map, optionRepr] at h; subst h; rfl
  | some v =>
    simp only [NullRepr.vabs, NullRepr.map, optionRepr, id] at h
    obtain ⟨w, hw, rfl⟩ := Res.map_eq_ok h
    have := absVal_null b v w hw
    unfold isNoneOf at this
    rw [this, hx.2]; rfl

/-- `into_cast::<T>()` is the identity, `into_cast::<Option<T>>()` is `to_opt` -/
theorem intoCast_spec (b : Base) (x : Val) :
    intoCastPlain x = x ∧ intoCastOpt (reprOf b) x = (reprOf b).toOpt x := by
  refine ⟨rfl, ?_⟩
  have := (reprOf_lawful b).asOpt_eq_toOpt x
  rw [← this, reprOf_asOpt]; rfl

/-! ## Non-vacuity: concrete canonical values with nulls satisfy the hypotheses -/

example : Typed ⟨.f64, false⟩ (.v (.flt .nan)) ∧ Typed ⟨.i32, true⟩ (.o none) ∧
    Typed ⟨.i32, true⟩ (.o (some (.int (-5)))) := by
  refine ⟨⟨rfl, trivial⟩, rfl, rfl, ?_, rfl⟩
  simp [ValOf]

example : castModel ⟨.f64, false⟩ ⟨.i32, true⟩ (.v (.flt .nan)) = .ok (.o none) ∧
    castModel ⟨.i32, true⟩ ⟨.f64, false⟩ (.o none) = .ok (.v (.flt .nan)) ∧
    castModel ⟨.i32, true⟩ ⟨.u8, false⟩ (.o (some (.int (-1)))) = .ok (.v (.int 255)) ∧
    castModel ⟨.i32, true⟩ ⟨.u8, false⟩ (.o none) = .panic := by decide

example : sortCmp floatRepr isNanV pcmpVal (.flt .nan) (.flt (.inf false)) = .gt ∧
    sortCmpRev floatRepr isNanV pcmpVal (.flt .nan) (.flt (.inf false)) = .gt ∧
    sortCmp (optionRepr neverRepr) (fun _ => false) pcmpVal (some (.int 3)) (some (.int 7)) = .lt ∧
    sortCmpRev (optionRepr neverRepr) (fun _ => false) pcmpVal (some (.int 3)) (some (.int 7)) = .gt ∧
    sortCmpRev (optionRepr neverRepr) (fun _ => false) pcmpVal none (some (.int 7)) = .gt := by decide

example : ValOf .td (.td i32Min 0) ∧ isNoneOf .td (.td i32Min 0) = true ∧ Valid .td (.td 1 (-100)) := by
  refine ⟨by simp [ValOf, i32Min], rfl, by simp [ValOf], rfl⟩

end Tv.C15
