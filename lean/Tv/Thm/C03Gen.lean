import Tv.GenClosures
import Tv.Thm.C02Gen
import Tv.Lemmas.GenSim
import Tv.Thm.C03
import Mathlib.Tactic.Ring
import Mathlib.Tactic.NormNum
/-!
# C03 — the closures regenerated from cmp.rs / norm.rs are the model's closures

`Tv.Gen.<fn>.step` is written by translator/closures.py from the Rust source on every run. Each of the
seven is proved to run in agreement with the model's closure over every call list (`*_exact`, composed
with the theorems of `Thm/C03.lean`) and with the regenerated driver (`*_from_source`).
`ts_vzscore` runs over `rolling_apply` and is decomposed by the translator (`pre` / `post`). The others run
over `rolling_apply_idx` and re-read the series inside the closure: the four cached-extremum closures of
cmp.rs are one function `cmpGen` of the comparison and the output (`*_gen`), compared with the model's
`cmpStep` once; `ts_vrank` recounts its window at every call; `ts_vminmaxnorm` is split at its expiry match
(`ts_vminmaxnorm_refreshed`, `genEnd_agree`).
-/
namespace Tv.C03Gen
open Tv Tv.GenSim Tv.C03

theorem eps_eq : Gen.EPS = C03.EPS := by norm_num [Gen.EPS, C03.EPS]
theorem eps_not_neg : ¬ (C03.EPS < 0) := by norm_num [C03.EPS]
theorem cast_pred (n : Nat) (h : 0 < n) : ((n - 1 : Nat) : Rat) = (n : Rat) - 1 :=
  Nat.cast_pred h

/-- the power sums `ts_vzscore` keeps (the model state also remembers the element of the current call) -/
def of_vzscore (m : ZSt) : Gen.ts_vzscore.St := ⟨m.sum, m.sum2, m.n⟩

theorem ts_vzscore_pre (sqrt : Rat → Rat) (w mp : Nat) (m : ZSt) (v : Option Rat) :
    (Gen.ts_vzscore.pre sqrt w mp (of_vzscore m) v).1 = of_vzscore (m.add v) ∧
    AgreeW (Gen.ts_vzscore.pre sqrt w mp (of_vzscore m) v).2 (zEmit mp (m.add v)) := by
  cases v with
  | none => exact ⟨rfl, rfl⟩
  | some v =>
    refine ⟨rfl, ?_⟩
    simp only [Gen.ts_vzscore.pre, of_vzscore, ZSt.add, zEmit, eps_eq, sq, decide_eq_true_eq, ge_iff_le, gt_iff_lt]
    split_ifs <;> first | rfl | trivial | simp only [*, if_true, if_false, AgreeW, Option.isSome_some]

theorem ts_vzscore_minPeriods (w : Nat) (mp : Option Nat) : Gen.ts_vzscore.minPeriods w mp = normMp mp w := rfl

/-- the closure regenerated from the source of `ts_vzscore`, driven over the callbacks of either
driver shape: null exactly where the from-scratch z-score is null, and a value where it is one
(the value itself is compared by the correspondence run: the model writes it under a root sign) -/
theorem ts_vzscore_exact (sqrt : Rat → Rat) (sh : Shape) (xs : List (Option Rat)) (w : Nat) (mp : Option Nat) (hw : 1 ≤ w) :
    List.Forall₂ AgreeW
      (genRun (Gen.ts_vzscore.step sqrt w (Gen.ts_vzscore.minPeriods w mp)) (Gen.ts_vzscore.init w) (applyCalls sh xs w))
      ((List.range xs.length).map fun i => Spec.tsZscore (normMp mp w) (window xs i w)) := by
  have h := run_sim id _ (zRoll (normMp mp w)) (fun g m => g = of_vzscore m) AgreeW
    (hstep_of_pre id (Gen.ts_vzscore.step sqrt w _) (Gen.ts_vzscore.pre sqrt w _) (Gen.ts_vzscore.post w)
      (zRoll _) _ AgreeW (Gen.ts_vzscore.step_eq sqrt w _) (fun _ m v h => h ▸ ts_vzscore_pre sqrt w _ m v)
      (fun _ m x h => by rw [h]; cases x <;> rfl) (fun _ => rfl))
    (applyCalls sh xs w) _ ⟨0, 0, 0, none⟩ rfl
  rw [mapCalls_id] at h
  rw [ts_vzscore_minPeriods, ← vzscore_exact sh xs w mp hw]
  exact h

/-- membership by walking the list (`List.Mem.head` / `tail`): no two strings are compared -/
theorem closures_present : "ts_vzscore" ∈ Gen.closures := by repeat constructor

/-! ## the cached-extremum closures of cmp.rs (`rolling_apply_idx`, rescans through `self.uget`) -/

theorem uget_eq (xs : List (Option Rat)) (i : Nat) : Gen.uget xs i = C03.get xs i := rfl
theorem optLt_eq (a b : Option Nat) : Gen.optLt a b = ltON a b := by
  cases a <;> cases b <;> rfl

theorem cmpRat_cases {α : Type} (a b : Rat) (X Y : α) :
    Gen.ordCases (Gen.cmpRat a b) X X Y = (if a ≤ b then X else Y) ∧
    Gen.ordCases (Gen.cmpRat a b).swap X X Y = (if b ≤ a then X else Y) := by
  unfold Gen.cmpRat
  rcases lt_trichotomy a b with h | h | h
  · rw [if_pos h, if_pos h.le, if_neg h.not_ge]; exact ⟨rfl, rfl⟩
  · subst h; rw [if_neg (lt_irrefl a), if_pos rfl, if_pos le_rfl]; exact ⟨rfl, rfl⟩
  · rw [if_neg h.not_gt, if_neg h.ne', if_neg h.not_ge, if_pos h.le]; exact ⟨rfl, rfl⟩

/-- `match a.sort_cmp(&b) { Less | Equal => X, _ => Y }` is `if a ≤ b (nulls last) then X else Y` -/
theorem sortCmp_le {α : Type} (a b : Option Rat) (X Y : α) :
    Gen.ordCases (Gen.sortCmp a b) X X Y = if leNL a b then X else Y := by
  rcases a with _ | a <;> rcases b with _ | b <;> try rfl
  exact (cmpRat_cases a b X Y).1.trans (by simp only [leNL, decide_eq_true_eq])

theorem sortCmpRev_ge {α : Type} (a b : Option Rat) (X Y : α) :
    Gen.ordCases (Gen.sortCmpRev a b) X X Y = if geNL a b then X else Y := by
  rcases a with _ | a <;> rcases b with _ | b <;> try rfl
  exact (cmpRat_cases a b X Y).2.trans (by simp only [geNL, decide_eq_true_eq])

theorem upd_fun (le : Option Rat → Option Rat → Bool) (xs : List (Option Rat)) :
    (fun (x : ExtSt) i =>
      ((if le (C03.get xs i) x.1 = true then (C03.get xs i, some i) else (x.1, x.2)).1,
       (if le (C03.get xs i) x.1 = true then (C03.get xs i, some i) else (x.1, x.2)).2))
      = upd le (C03.get xs) := by
  funext x i
  unfold upd updV
  split_ifs <;> rfl

theorem agree_optOut (sqrt : Rat → Rat) (o : Option Rat) : Agree sqrt o (optOut o) := by
  cases o <;> simp [optOut, Agree]

theorem agree_offset (sqrt : Rat → Rat) (m : ExtSt) (start : Option Nat) :
    Agree sqrt ((m.1.bind fun _ => m.2).map fun k => (((k - start.getD 0 + 1 : Nat)) : Rat)) (Proj.arg.out m start) := by
  obtain ⟨a, b⟩ := m
  cases a <;> cases b <;> rfl

/-- generated step functions of the index-driven closures, run over `(start?, end, value)` calls -/
def genRunIdx {σ : Type} (step : σ → Option Nat → Nat → Option Rat → σ × Option Rat) (s : σ)
    (cs : List (Option Nat × Nat × Option Rat)) : List (Option Rat) :=
  runSt (fun s c => step s c.1 c.2.1 c.2.2) s cs

theorem runSt_sim_mem {σ τ γ β δ : Type} (f : σ → γ → σ × β) (g : τ → γ → τ × δ) (R : σ → τ → Prop) (A : β → δ → Prop)
    (cs : List γ) (h : ∀ s t c, c ∈ cs → R s t → R (f s c).1 (g t c).1 ∧ A (f s c).2 (g t c).2) :
    ∀ (s : σ) (t : τ), R s t → List.Forall₂ A (runSt f s cs) (runSt g t cs) := by
  induction cs with
  | nil => intro s t _; exact List.Forall₂.nil
  | cons c cs ih =>
    intro s t hr
    obtain ⟨h1, h2⟩ := h s t c (List.mem_cons_self) hr
    exact List.Forall₂.cons h2 (ih (fun s t c hc => h s t c (List.mem_cons_of_mem _ hc)) _ _ h1)

theorem runSt_sim {σ τ γ β δ : Type} (f : σ → γ → σ × β) (g : τ → γ → τ × δ) (R : σ → τ → Prop) (A : β → δ → Prop)
    (h : ∀ s t c, R s t → R (f s c).1 (g t c).1 ∧ A (f s c).2 (g t c).2)
    (cs : List γ) (s : σ) (t : τ) : R s t → List.Forall₂ A (runSt f s cs) (runSt g t cs) :=
  runSt_sim_mem f g R A cs (fun s t c _ => h s t c) s t

/-! The five entry points of cmp.rs clamp the window to the length before they compute `min_periods`
and call the driver (`let window = min(self.len(), window)`, skipped on an empty series). -/

theorem clamp_window (len w : Nat) (h : 1 ≤ len) : (if decide (len = 0) then w else min len w) = min len w := by
  rw [decide_eq_false (by omega)]; rfl

theorem clamp_minPeriods (len w : Nat) (mp : Option Nat) (h : 1 ≤ len) :
    mp.getD ((if decide (len = 0) then w else min len w) / 2) = cmpMp mp w len := by
  rw [clamp_window len w h]; rfl

theorem clamp_pos (len w : Nat) (hw : 1 ≤ w) : 1 ≤ (if decide (len = 0) then w else min len w) := by
  by_cases h : len = 0
  · rw [decide_eq_true h]; exact hw
  · rw [decide_eq_false h]; exact Nat.le_min.2 ⟨by omega, hw⟩

theorem genRunIdx_nil {σ : Type} (step : σ → Option Nat → Nat → Option Rat → σ × Option Rat) (s : σ) (sh : Shape) (w : Nat) :
    genRunIdx step s (idxCalls sh ([] : List (Option Rat)) w) = [] := by
  rw [idxCalls_nil]; rfl

/-- One call of a cached-extremum closure of cmp.rs as the generated code runs it; the four closures
differ in the comparison `ord` (`sort_cmp` / `sort_cmp_rev`) and in what `out` makes of the cache. -/
def cmpGen (ord : Option Rat → Option Rat → Ordering) (out : ExtSt → Option Nat → Option Rat)
    (xs : List (Option Rat)) (mp : Nat) (st : ExtSt) (n : Nat) (start : Option Nat) (e : Nat) (v : Option Rat) :
    (ExtSt × Nat) × Option Rat :=
  let n1 := if v.isSome then n + 1 else n
  let st : ExtSt := if v.isSome && st.2.isNone then (v, some e) else st
  let st : ExtSt :=
    if Gen.optLt st.2 start then
      (List.range' (start.getD 0) (e + 1 - start.getD 0)).foldl
        (fun st i => Gen.ordCases (ord (Gen.uget xs i) st.1) (Gen.uget xs i, some i) (Gen.uget xs i, some i) st)
        (Gen.uget xs (start.getD 0), st.2)
    else Gen.ordCases (ord v st.1) (v, some e) (v, some e) st
  ((st, if start.isSome && (Gen.uget xs (start.getD 0)).isSome then n1 - 1 else n1),
   if decide (n1 ≥ mp) then out st start else none)

section
variable (sqrt : Rat → Rat) {ord : Option Rat → Option Rat → Ordering} {le : Option Rat → Option Rat → Bool}
  (hord : ∀ (a b : Option Rat) (X Y : ExtSt), Gen.ordCases (ord a b) X X Y = if le a b then X else Y)
  {out : ExtSt → Option Nat → Option Rat} {pj : Proj} (hout : ∀ m start, Agree sqrt (out m start) (pj.out m start))
  (xs : List (Option Rat)) (mp : Nat)
include hord hout

/-- one call of `cmpGen` simulates one call of the model's `cmpStep`, for a comparison `ord` that
decides `le` (`sortCmp_le`, `sortCmpRev_ge`) and an output that reads as the model's projection -/
theorem cmpGen_step (m : CmpSt) (c : Option Nat × Nat × Option Rat) :
    (cmpGen ord out xs mp (m.ext, m.idx) m.n c.1 c.2.1 c.2.2).1 =
      (((cmpStep le pj (C03.get xs) mp m c).1.ext, (cmpStep le pj (C03.get xs) mp m c).1.idx),
        (cmpStep le pj (C03.get xs) mp m c).1.n) ∧
    Agree sqrt (cmpGen ord out xs mp (m.ext, m.idx) m.n c.1 c.2.1 c.2.2).2 (cmpStep le pj (C03.get xs) mp m c).2 := by
  obtain ⟨start, e, v⟩ := c
  have hmask : ∀ (n1 : Nat) (st : ExtSt), Agree sqrt (if decide (n1 ≥ mp) then out st start else none)
      (if n1 ≥ mp then pj.out st start else .null) := by
    intro n1 st
    by_cases h : n1 ≥ mp
    · simp only [h, decide_true, if_true]; exact hout _ _
    · simp only [h, decide_false, if_false, Bool.false_eq_true]; rfl
  cases start with
  | none =>
    have hlt : ∀ a, ltON a none = false := fun a => by cases a <;> rfl
    simp only [cmpGen, cmpStep, extStep, optLt_eq, hlt, hord, updV, Bool.false_eq_true, if_false, Option.isSome_none, Bool.false_and]
    exact ⟨trivial, hmask _ _⟩
  | some s =>
    simp only [cmpGen, cmpStep, extStep, optLt_eq, hord, updV, rescan, uget_eq, Option.getD_some, Option.isSome_some, Bool.true_and]
    exact ⟨rfl, hmask _ _⟩

/-- a step function that is `cmpGen` on its three-field state `mk ext idx n` runs in agreement with
the model closure -/
theorem cmpGen_run {σ : Type} (mk : Option Rat → Option Nat → Nat → σ)
    (f : σ → Option Nat → Nat → Option Rat → σ × Option Rat)
    (hf : ∀ a i n start e v, f (mk a i n) start e v =
      let r := cmpGen ord out xs mp (a, i) n start e v
      (mk r.1.1.1 r.1.1.2 r.1.2, r.2))
    (cs : List (Option Nat × Nat × Option Rat)) :
    List.Forall₂ (Agree sqrt) (genRunIdx f (mk none none 0) cs)
      (runSt (cmpStep le pj (C03.get xs) mp) ⟨none, none, 0⟩ cs) :=
  runSt_sim _ _ (fun g m => g = mk m.ext m.idx m.n) (Agree sqrt)
    (fun g m c h => by
      obtain ⟨h1, h2⟩ := cmpGen_step sqrt hord hout xs mp m c
      rw [h, hf]
      exact ⟨by simp only [h1], h2⟩) cs _ _ rfl

end

theorem ts_vmin_gen (sqrt : Rat → Rat) (xs : List (Option Rat)) (len w mp : Nat) (a : Option Rat) (i : Option Nat) (n : Nat)
    (start : Option Nat) (e : Nat) (v : Option Rat) :
    Gen.ts_vmin.step sqrt xs len w mp ⟨a, i, n⟩ start e v =
      let r := cmpGen Gen.sortCmp (fun m _ => m.1) xs mp (a, i) n start e v
      (⟨r.1.1.1, r.1.1.2, r.1.2⟩, r.2) := by
  cases v <;> rfl

theorem ts_vmin_window (len w : Nat) (h : 1 ≤ len) : Gen.ts_vmin.effWindow len w = min len w :=
  clamp_window len w h
theorem ts_vmin_minPeriods (len w : Nat) (mp : Option Nat) (h : 1 ≤ len) :
    Gen.ts_vmin.minPeriods len w mp = cmpMp mp w len :=
  clamp_minPeriods len w mp h

/-- the closure regenerated from the source of `ts_vmin`, driven over the index callbacks of either
driver shape with the entry point's own window clamp, yields the from-scratch statistic of the
window at every position -/
theorem ts_vmin_exact (sqrt : Rat → Rat) (sh : Shape) (xs : List (Option Rat)) (w : Nat) (mp : Option Nat) (hw : 1 ≤ w) :
    List.Forall₂ (Agree sqrt)
      (genRunIdx (Gen.ts_vmin.step sqrt xs xs.length w (Gen.ts_vmin.minPeriods xs.length w mp))
        (Gen.ts_vmin.init xs.length w) (idxCalls sh xs (Gen.ts_vmin.effWindow xs.length w)))
      ((List.range xs.length).map fun i => Spec.tsMin (cmpMp mp w xs.length) (window xs i w)) := by
  rcases Nat.eq_zero_or_pos xs.length with h0 | hpos
  · rw [List.length_eq_zero_iff.mp h0, genRunIdx_nil]; exact List.Forall₂.nil
  · rw [ts_vmin_window _ _ hpos, ts_vmin_minPeriods _ _ _ hpos, ← C03.vmin_exact sh xs w mp hw]
    exact cmpGen_run sqrt sortCmp_le (pj := .val) (out := fun m _ => m.1) (fun m _ => agree_optOut sqrt m.1) xs _ Gen.ts_vmin.St.mk _ (ts_vmin_gen sqrt xs _ w _) _

theorem ts_vmax_gen (sqrt : Rat → Rat) (xs : List (Option Rat)) (len w mp : Nat) (a : Option Rat) (i : Option Nat) (n : Nat)
    (start : Option Nat) (e : Nat) (v : Option Rat) :
    Gen.ts_vmax.step sqrt xs len w mp ⟨a, i, n⟩ start e v =
      let r := cmpGen Gen.sortCmpRev (fun m _ => m.1) xs mp (a, i) n start e v
      (⟨r.1.1.1, r.1.1.2, r.1.2⟩, r.2) := by
  cases v <;> rfl

theorem ts_vmax_window (len w : Nat) (h : 1 ≤ len) : Gen.ts_vmax.effWindow len w = min len w :=
  clamp_window len w h
theorem ts_vmax_minPeriods (len w : Nat) (mp : Option Nat) (h : 1 ≤ len) :
    Gen.ts_vmax.minPeriods len w mp = cmpMp mp w len :=
  clamp_minPeriods len w mp h

theorem ts_vmax_exact (sqrt : Rat → Rat) (sh : Shape) (xs : List (Option Rat)) (w : Nat) (mp : Option Nat) (hw : 1 ≤ w) :
    List.Forall₂ (Agree sqrt)
      (genRunIdx (Gen.ts_vmax.step sqrt xs xs.length w (Gen.ts_vmax.minPeriods xs.length w mp))
        (Gen.ts_vmax.init xs.length w) (idxCalls sh xs (Gen.ts_vmax.effWindow xs.length w)))
      ((List.range xs.length).map fun i => Spec.tsMax (cmpMp mp w xs.length) (window xs i w)) := by
  rcases Nat.eq_zero_or_pos xs.length with h0 | hpos
  · rw [List.length_eq_zero_iff.mp h0, genRunIdx_nil]; exact List.Forall₂.nil
  · rw [ts_vmax_window _ _ hpos, ts_vmax_minPeriods _ _ _ hpos, ← C03.vmax_exact sh xs w mp hw]
    exact cmpGen_run sqrt sortCmpRev_ge (pj := .val) (out := fun m _ => m.1) (fun m _ => agree_optOut sqrt m.1) xs _ Gen.ts_vmax.St.mk _ (ts_vmax_gen sqrt xs _ w _) _

theorem ts_vargmin_gen (sqrt : Rat → Rat) (xs : List (Option Rat)) (len w mp : Nat) (a : Option Rat) (i : Option Nat) (n : Nat)
    (start : Option Nat) (e : Nat) (v : Option Rat) :
    Gen.ts_vargmin.step sqrt xs len w mp ⟨a, i, n⟩ start e v =
      let r := cmpGen Gen.sortCmp (fun m start => (m.1.bind fun _ => m.2).map fun k => (((k - start.getD 0 + 1 : Nat)) : Rat)) xs mp (a, i) n start e v
      (⟨r.1.1.1, r.1.1.2, r.1.2⟩, r.2) := by
  cases v <;> cases i <;> rfl

theorem ts_vargmin_window (len w : Nat) (h : 1 ≤ len) : Gen.ts_vargmin.effWindow len w = min len w :=
  clamp_window len w h
theorem ts_vargmin_minPeriods (len w : Nat) (mp : Option Nat) (h : 1 ≤ len) :
    Gen.ts_vargmin.minPeriods len w mp = cmpMp mp w len :=
  clamp_minPeriods len w mp h

theorem ts_vargmin_exact (sqrt : Rat → Rat) (sh : Shape) (xs : List (Option Rat)) (w : Nat) (mp : Option Nat) (hw : 1 ≤ w) :
    List.Forall₂ (Agree sqrt)
      (genRunIdx (Gen.ts_vargmin.step sqrt xs xs.length w (Gen.ts_vargmin.minPeriods xs.length w mp))
        (Gen.ts_vargmin.init xs.length w) (idxCalls sh xs (Gen.ts_vargmin.effWindow xs.length w)))
      ((List.range xs.length).map fun i => Spec.tsArgmin (cmpMp mp w xs.length) (window xs i w)) := by
  rcases Nat.eq_zero_or_pos xs.length with h0 | hpos
  · rw [List.length_eq_zero_iff.mp h0, genRunIdx_nil]; exact List.Forall₂.nil
  · rw [ts_vargmin_window _ _ hpos, ts_vargmin_minPeriods _ _ _ hpos, ← C03.vargmin_exact sh xs w mp hw]
    exact cmpGen_run sqrt sortCmp_le (agree_offset sqrt) xs _ Gen.ts_vargmin.St.mk _ (ts_vargmin_gen sqrt xs _ w _) _

def R_ts_vargmax (g : Gen.ts_vargmax.St) (m : CmpSt) : Prop := g.max = m.ext ∧ g.max_idx = m.idx ∧ g.n = m.n

theorem ts_vargmax_gen (sqrt : Rat → Rat) (xs : List (Option Rat)) (len w mp : Nat) (a : Option Rat) (i : Option Nat) (n : Nat)
    (start : Option Nat) (e : Nat) (v : Option Rat) :
    Gen.ts_vargmax.step sqrt xs len w mp ⟨a, i, n⟩ start e v =
      let r := cmpGen Gen.sortCmpRev (fun m start => (m.1.bind fun _ => m.2).map fun k => (((k - start.getD 0 + 1 : Nat)) : Rat)) xs mp (a, i) n start e v
      (⟨r.1.1.1, r.1.1.2, r.1.2⟩, r.2) := by
  cases v <;> cases i <;> rfl

theorem ts_vargmax_step (sqrt : Rat → Rat) (xs : List (Option Rat)) (len w mp : Nat) (g : Gen.ts_vargmax.St) (m : CmpSt)
    (c : Option Nat × Nat × Option Rat) (h : R_ts_vargmax g m) :
    R_ts_vargmax (Gen.ts_vargmax.step sqrt xs len w mp g c.1 c.2.1 c.2.2).1 (cmpStep geNL .arg (C03.get xs) mp m c).1 ∧
    Agree sqrt (Gen.ts_vargmax.step sqrt xs len w mp g c.1 c.2.1 c.2.2).2 (cmpStep geNL .arg (C03.get xs) mp m c).2 := by
  rcases g with ⟨a, i, n⟩
  obtain ⟨rfl, rfl, rfl⟩ := h
  rw [ts_vargmax_gen]
  obtain ⟨h1, h2⟩ := cmpGen_step sqrt sortCmpRev_ge (agree_offset sqrt) xs mp m c
  exact ⟨⟨congrArg (·.1.1) h1, congrArg (·.1.2) h1, congrArg (·.2) h1⟩, h2⟩

theorem ts_vargmax_window (len w : Nat) (h : 1 ≤ len) : Gen.ts_vargmax.effWindow len w = min len w :=
  clamp_window len w h
theorem ts_vargmax_minPeriods (len w : Nat) (mp : Option Nat) (h : 1 ≤ len) :
    Gen.ts_vargmax.minPeriods len w mp = cmpMp mp w len :=
  clamp_minPeriods len w mp h

theorem ts_vargmax_exact (sqrt : Rat → Rat) (sh : Shape) (xs : List (Option Rat)) (w : Nat) (mp : Option Nat) (hw : 1 ≤ w) :
    List.Forall₂ (Agree sqrt)
      (genRunIdx (Gen.ts_vargmax.step sqrt xs xs.length w (Gen.ts_vargmax.minPeriods xs.length w mp))
        (Gen.ts_vargmax.init xs.length w) (idxCalls sh xs (Gen.ts_vargmax.effWindow xs.length w)))
      ((List.range xs.length).map fun i => Spec.tsArgmax (cmpMp mp w xs.length) (window xs i w)) := by
  rcases Nat.eq_zero_or_pos xs.length with h0 | hpos
  · rw [List.length_eq_zero_iff.mp h0, genRunIdx_nil]; exact List.Forall₂.nil
  · rw [ts_vargmax_window _ _ hpos, ts_vargmax_minPeriods _ _ _ hpos, ← C03.vargmax_exact sh xs w mp hw]
    exact cmpGen_run sqrt sortCmpRev_ge (agree_offset sqrt) xs _ Gen.ts_vargmax.St.mk _ (ts_vargmax_gen sqrt xs _ w _) _

theorem cmp_closures_present :
    ∀ n ∈ ["ts_vmin", "ts_vmax", "ts_vargmin", "ts_vargmax", "ts_vrank"], n ∈ Gen.closures := by
  simp only [List.forall_mem_cons, List.not_mem_nil, false_imp_iff, implies_true, and_true]
  repeat constructor

/-! ## `ts_vrank` (cmp.rs): the recount loop, NaN-propagating rank arithmetic -/

theorem rank_fold_inv (g : Nat → Option Rat) (x : Rat)
    (f : Option Rat × Nat → Nat → Option Rat × Nat)
    (hf : ∀ (a b : Nat) i, f (some (1 + (a : Rat)), 1 + b) i
        = (some (1 + ((rankAcc g x (a, b) i).1 : Rat)), 1 + (rankAcc g x (a, b) i).2)) :
    ∀ (l : List Nat) (a b : Nat), List.foldl f (some (1 + (a : Rat)), 1 + b) l
      = (some (1 + (((List.foldl (rankAcc g x) (a, b) l).1 : Nat) : Rat)), 1 + (List.foldl (rankAcc g x) (a, b) l).2) := by
  intro l
  induction l with
  | nil => intro a b; rfl
  | cons i l ih =>
    intro a b
    simp only [List.foldl_cons]
    rw [hf a b i]
    exact ih _ _

theorem ts_vrank_step (sqrt : Rat → Rat) (xs : List (Option Rat)) (len w mp : Nat) (pct rev : Bool)
    (g : Gen.ts_vrank.St) (n : Nat) (c : Option Nat × Nat × Option Rat) (h : g.n = n) (hlen : 1 ≤ len)
    (hc : c.2.1 ≥ min len w - 1 → c.1.isSome = true) :
    (Gen.ts_vrank.step sqrt xs len w mp pct rev g c.1 c.2.1 c.2.2).1.n = (rankStep (C03.get xs) mp (min len w - 1) pct rev n c).1 ∧
    Agree sqrt (Gen.ts_vrank.step sqrt xs len w mp pct rev g c.1 c.2.1 c.2.2).2 (rankStep (C03.get xs) mp (min len w - 1) pct rev n c).2 := by
  obtain ⟨start, e, v⟩ := c
  rcases g with ⟨gn⟩
  simp only at h hc
  subst h
  have hl0 : ¬ len = 0 := by omega
  -- the count of the leaving element; `start` is `some` whenever the generated code unwraps it
  have hn : ∀ n1 : Nat,
      (if (decide (e ≥ min len w - 1) && (C03.get xs (start.getD 0)).isSome) = true then n1 - 1 else n1) =
        if e ≥ min len w - 1 then
          match (generalizing := false) start with
          | some s => if (C03.get xs s).isSome then n1 - 1 else n1
          | none => n1
        else n1 := by
    intro n1
    by_cases he : e ≥ min len w - 1
    · have hs := hc he
      cases start with
      | none => simp at hs
      | some st => simp [he]
    · simp [he]
  cases v with
  | none =>
    simp only [Gen.ts_vrank.step, rankStep, hl0, decide_false, if_false, Bool.false_eq_true, uget_eq]
    refine ⟨hn gn, ?_⟩
    · split
      · cases rev <;> cases pct <;> rfl
      · rfl
  | some x =>
    simp only [Gen.ts_vrank.step, rankStep, hl0, decide_false, if_false, Bool.false_eq_true, uget_eq, Option.isSome_some, if_true]
    refine ⟨hn (gn + 1), ?_⟩
    · have e0 : ((some (1 : Rat), 1) : Option Rat × Nat) = (some (1 + ((0 : Nat) : Rat)), 1 + 0) := by simp
      rw [e0, rank_fold_inv (C03.get xs) x]
      · simp only [rankCount]
        generalize List.foldl (rankAcc (C03.get xs) x) (0, 0) (List.range' (start.getD 0) (e - start.getD 0)) = cnt
        obtain ⟨c1, c2⟩ := cnt
        by_cases hm : gn + 1 ≥ mp
        · simp only [hm, decide_true, if_true]
          cases rev <;> cases pct <;> rfl
        · simp only [hm, decide_false, if_false, Bool.false_eq_true]
          rfl
      · intro a b i
        simp only [rankAcc]
        cases hg : C03.get xs i with
        | none => simp
        | some y =>
          simp only [decide_eq_true_eq]
          by_cases h1 : y < x
          · simp [h1, Gen.lift2]; ring
          · by_cases h2 : y = x
            · simp [h2]; ring
            · simp [h1, h2]

theorem ts_vrank_window (len w : Nat) (h : 1 ≤ len) : Gen.ts_vrank.effWindow len w = min len w :=
  clamp_window len w h
theorem ts_vrank_minPeriods (len w : Nat) (mp : Option Nat) (h : 1 ≤ len) :
    Gen.ts_vrank.minPeriods len w mp = cmpMp mp w len :=
  clamp_minPeriods len w mp h

/-- the closure regenerated from the source of `ts_vrank` (the O(w) recount at every position)
yields the average rank of the current element in its window, ascending or descending, optionally
as a fraction -/
theorem ts_vrank_exact (sqrt : Rat → Rat) (sh : Shape) (xs : List (Option Rat)) (w : Nat) (mp : Option Nat)
    (pct rev : Bool) (hw : 1 ≤ w) :
    List.Forall₂ (Agree sqrt)
      (genRunIdx (Gen.ts_vrank.step sqrt xs xs.length w (Gen.ts_vrank.minPeriods xs.length w mp) pct rev)
        (Gen.ts_vrank.init xs.length w) (idxCalls sh xs (Gen.ts_vrank.effWindow xs.length w)))
      ((List.range xs.length).map fun i => Spec.tsRank (cmpMp mp w xs.length) pct rev (window xs i w)) := by
  rcases Nat.eq_zero_or_pos xs.length with h0 | hpos
  · rw [List.length_eq_zero_iff.mp h0, genRunIdx_nil]; exact List.Forall₂.nil
  · rw [ts_vrank_window _ _ hpos, ts_vrank_minPeriods _ _ _ hpos, ← C03.vrank_exact sh xs w mp pct rev hw]
    unfold tsVrank genRunIdx
    exact runSt_sim_mem _ _ (fun (g : Gen.ts_vrank.St) (n : Nat) => g.n = n) (Agree sqrt) _
      (fun s t c hc hr => ts_vrank_step sqrt xs xs.length w _ pct rev s t c hr hpos
        (vrank_unwrap_safe sh xs w hw c hc)) _ _ (by simp [Gen.ts_vrank.init])

/-! ## from source, end to end: regenerated driver and regenerated closure together -/

theorem ts_vzscore_from_source (sqrt : Rat → Rat) (xs : List (Option Rat)) (w : Nat) (mp : Option Nat) (hw : 1 ≤ w) :
    C02Gen.E2E (fun cs => List.Forall₂ AgreeW
      (genRun (Gen.ts_vzscore.step sqrt w (Gen.ts_vzscore.minPeriods w mp)) (Gen.ts_vzscore.init w) cs)
      ((List.range xs.length).map fun i => Spec.tsZscore (normMp mp w) (window xs i w))) xs w :=
  C02Gen.e2e_apply _ xs w hw (ts_vzscore_exact sqrt .to xs w mp hw) (ts_vzscore_exact sqrt .iter xs w mp hw)

/-- regenerated index driver (both shapes, with the entry point's own window clamp) + regenerated closure -/
theorem ts_vmin_from_source (sqrt : Rat → Rat) (xs : List (Option Rat)) (w : Nat) (mp : Option Nat) (hw : 1 ≤ w) :
    C02Gen.E2EIdx (fun cs => List.Forall₂ (Agree sqrt)
      (genRunIdx (Gen.ts_vmin.step sqrt xs xs.length w (Gen.ts_vmin.minPeriods xs.length w mp)) (Gen.ts_vmin.init xs.length w) cs)
      ((List.range xs.length).map fun i => Spec.tsMin (cmpMp mp w xs.length) (window xs i w)))
      xs (Gen.ts_vmin.effWindow xs.length w) :=
  C02Gen.e2e_idx _ xs _ (clamp_pos _ w hw) (ts_vmin_exact sqrt .to xs w mp hw) (ts_vmin_exact sqrt .iter xs w mp hw)

theorem ts_vmax_from_source (sqrt : Rat → Rat) (xs : List (Option Rat)) (w : Nat) (mp : Option Nat) (hw : 1 ≤ w) :
    C02Gen.E2EIdx (fun cs => List.Forall₂ (Agree sqrt)
      (genRunIdx (Gen.ts_vmax.step sqrt xs xs.length w (Gen.ts_vmax.minPeriods xs.length w mp)) (Gen.ts_vmax.init xs.length w) cs)
      ((List.range xs.length).map fun i => Spec.tsMax (cmpMp mp w xs.length) (window xs i w)))
      xs (Gen.ts_vmax.effWindow xs.length w) :=
  C02Gen.e2e_idx _ xs _ (clamp_pos _ w hw) (ts_vmax_exact sqrt .to xs w mp hw) (ts_vmax_exact sqrt .iter xs w mp hw)

theorem ts_vargmin_from_source (sqrt : Rat → Rat) (xs : List (Option Rat)) (w : Nat) (mp : Option Nat) (hw : 1 ≤ w) :
    C02Gen.E2EIdx (fun cs => List.Forall₂ (Agree sqrt)
      (genRunIdx (Gen.ts_vargmin.step sqrt xs xs.length w (Gen.ts_vargmin.minPeriods xs.length w mp)) (Gen.ts_vargmin.init xs.length w) cs)
      ((List.range xs.length).map fun i => Spec.tsArgmin (cmpMp mp w xs.length) (window xs i w)))
      xs (Gen.ts_vargmin.effWindow xs.length w) :=
  C02Gen.e2e_idx _ xs _ (clamp_pos _ w hw) (ts_vargmin_exact sqrt .to xs w mp hw) (ts_vargmin_exact sqrt .iter xs w mp hw)

theorem ts_vargmax_from_source (sqrt : Rat → Rat) (xs : List (Option Rat)) (w : Nat) (mp : Option Nat) (hw : 1 ≤ w) :
    C02Gen.E2EIdx (fun cs => List.Forall₂ (Agree sqrt)
      (genRunIdx (Gen.ts_vargmax.step sqrt xs xs.length w (Gen.ts_vargmax.minPeriods xs.length w mp)) (Gen.ts_vargmax.init xs.length w) cs)
      ((List.range xs.length).map fun i => Spec.tsArgmax (cmpMp mp w xs.length) (window xs i w)))
      xs (Gen.ts_vargmax.effWindow xs.length w) :=
  C02Gen.e2e_idx _ xs _ (clamp_pos _ w hw) (ts_vargmax_exact sqrt .to xs w mp hw) (ts_vargmax_exact sqrt .iter xs w mp hw)

theorem ts_vrank_from_source (sqrt : Rat → Rat) (xs : List (Option Rat)) (w : Nat) (mp : Option Nat)
    (pct rev : Bool) (hw : 1 ≤ w) :
    C02Gen.E2EIdx (fun cs => List.Forall₂ (Agree sqrt)
      (genRunIdx (Gen.ts_vrank.step sqrt xs xs.length w (Gen.ts_vrank.minPeriods xs.length w mp) pct rev)
        (Gen.ts_vrank.init xs.length w) cs)
      ((List.range xs.length).map fun i => Spec.tsRank (cmpMp mp w xs.length) pct rev (window xs i w)))
      xs (Gen.ts_vrank.effWindow xs.length w) :=
  C02Gen.e2e_idx _ xs _ (clamp_pos _ w hw) (ts_vrank_exact sqrt .to xs w mp pct rev hw)
    (ts_vrank_exact sqrt .iter xs w mp pct rev hw)

/-! ## `ts_vminmaxnorm` (norm.rs): sentinel-initialised caches, the four-way expiry match and its
three rescans, regenerated from the source -/

theorem geS_eq (v : Rat) (m : Option Rat) : Gen.geS v m = C03.geS v m := by cases m <;> rfl
theorem leS_eq (v : Rat) (m : Option Rat) : Gen.leS v m = C03.leS v m := by cases m <;> rfl

theorem rescan1 (cmp : Rat → Option Rat → Bool) (g : Nat → Option Rat)
    (F : Option Rat × Nat → Nat → Option Rat × Nat) (hF : ∀ st i, F st i = sUpd cmp st (g i) i)
    (m : Option Rat) (k s e : Nat) :
    List.foldl F (none, k) (List.range' s (e - s)) = sRescan cmp g (m, k) s e := by
  unfold sRescan
  exact congrArg (List.foldl · _ _) (funext fun st => funext (hF st))

theorem rescan2_aux (g : Nat → Option Rat)
    (F : Option Rat × Nat × Option Rat × Nat → Nat → Option Rat × Nat × Option Rat × Nat)
    (hF : ∀ a b c d i, F (a, b, c, d) i =
      ((sUpd C03.geS (a, b) (g i) i).1, (sUpd C03.geS (a, b) (g i) i).2,
       (sUpd C03.leS (c, d) (g i) i).1, (sUpd C03.leS (c, d) (g i) i).2)) :
    ∀ (l : List Nat) (a : Option Rat) (b : Nat) (c : Option Rat) (d : Nat),
    List.foldl F (a, b, c, d) l =
      ((List.foldl (fun st i => sUpd C03.geS st (g i) i) (a, b) l).1,
       (List.foldl (fun st i => sUpd C03.geS st (g i) i) (a, b) l).2,
       (List.foldl (fun st i => sUpd C03.leS st (g i) i) (c, d) l).1,
       (List.foldl (fun st i => sUpd C03.leS st (g i) i) (c, d) l).2) := by
  intro l
  induction l with
  | nil => intro a b c d; rfl
  | cons i l ih =>
    intro a b c d
    rw [List.foldl_cons, hF, ih]
    rfl

theorem rescan2 (g : Nat → Option Rat)
    (F : Option Rat × Nat × Option Rat × Nat → Nat → Option Rat × Nat × Option Rat × Nat)
    (hF : ∀ a b c d i, F (a, b, c, d) i =
      ((sUpd C03.geS (a, b) (g i) i).1, (sUpd C03.geS (a, b) (g i) i).2,
       (sUpd C03.leS (c, d) (g i) i).1, (sUpd C03.leS (c, d) (g i) i).2))
    (m1 m2 : Option Rat) (k1 k2 s e : Nat) :
    List.foldl F (none, k1, none, k2) (List.range' s (e - s)) =
      ((sRescan C03.geS g (m1, k1) s e).1, (sRescan C03.geS g (m1, k1) s e).2,
       (sRescan C03.leS g (m2, k2) s e).1, (sRescan C03.leS g (m2, k2) s e).2) := by
  unfold sRescan
  exact rescan2_aux g F hF _ _ _ _ _

def R_ts_vminmaxnorm (g : Gen.ts_vminmaxnorm.St) (m : MMSt) : Prop :=
  g.max = m.mx.1 ∧ g.max_idx = m.mx.2 ∧ g.min = m.mn.1 ∧ g.min_idx = m.mn.2 ∧ g.n = m.n

/-- a valid element leaves a value in the cache, whatever it held -/
theorem sUpd_some_fst {cmp : Rat → Option Rat → Bool} {R : Rat → Rat → Prop} (hc : SentCmp cmp R)
    (st : SentSt) (x : Rat) (e : Nat) : ∃ y, (sUpd cmp st (some x) e).1 = some y := by
  show ∃ y, (if cmp x st.1 then (some x, e) else st).1 = some y
  split
  · exact ⟨x, rfl⟩
  · rename_i h
    cases hm : st.1 with
    | none => rw [hm, hc.sentinel] at h; exact absurd rfl h
    | some m => exact ⟨m, rfl⟩

theorem agree_and_val (sqrt : Rat → Rat) (p q : Prop) [Decidable p] [Decidable q] (r : Rat) :
    Agree sqrt (if (decide p && decide q) = true then some r else none) (if p ∧ q then .val r else .null) := by
  by_cases hp : p <;> by_cases hq : q <;> simp [hp, hq, Agree]

/-- `n -= 1` if the element at `start` is valid -/
def leave (xs : List (Option Rat)) (start : Option Nat) (n : Nat) : Nat :=
  match start with
  | some s =>
    match Gen.uget xs s with
    | some _ => n - 1
    | _ => n
  | none => n

theorem leave_eq (xs : List (Option Rat)) (start : Option Nat) (n : Nat) :
    leave xs start n = match start with
      | some s => if (C03.get xs s).isSome then n - 1 else n
      | none => n := by
  cases start with
  | none => rfl
  | some s => simp only [leave, uget_eq]; cases C03.get xs s <;> rfl

/-- the generated closure body after the expiry match, on the refreshed caches -/
def genEnd (xs : List (Option Rat)) (mp : Nat) (mx mn : SentSt) (n : Nat) (start : Option Nat) (e : Nat)
    (v : Option Rat) : Gen.ts_vminmaxnorm.St × Option Rat :=
  let mx := sUpd C03.geS mx v e
  let mn := sUpd C03.leS mn v e
  match v with
  | some x =>
    (⟨mx.1, mx.2, mn.1, mn.2, leave xs start (n + 1)⟩,
     if decide (n + 1 ≥ mp) && Gen.sentNe mx.1 mn.1 then
       Gen.lift2 (· / ·) (Gen.lift2 (· - ·) (some x) mn.1) (Gen.lift2 (· - ·) mx.1 mn.1)
     else none)
  | none => (⟨mx.1, mx.2, mn.1, mn.2, leave xs start n⟩, none)

theorem genEnd_agree (sqrt : Rat → Rat) (xs : List (Option Rat)) (mp : Nat) (mx mn : SentSt) (n : Nat)
    (start : Option Nat) (e : Nat) (v : Option Rat) :
    R_ts_vminmaxnorm (genEnd xs mp mx mn n start e v).1 (mmEnd (C03.get xs) mp mx mn n start e v).1 ∧
    Agree sqrt (genEnd xs mp mx mn n start e v).2 (mmEnd (C03.get xs) mp mx mn n start e v).2 := by
  cases v with
  | none => exact ⟨⟨rfl, rfl, rfl, rfl, leave_eq xs start n⟩, rfl⟩
  | some x =>
    refine ⟨⟨rfl, rfl, rfl, rfl, leave_eq xs start (n + 1)⟩, ?_⟩
    obtain ⟨hi, hhi⟩ := sUpd_some_fst geS_ok mx x e
    obtain ⟨lo, hlo⟩ := sUpd_some_fst leS_ok mn x e
    simp only [genEnd, mmEnd, hhi, hlo, Option.isSome_some, if_true]
    exact agree_and_val sqrt _ _ _

/-- the generated expiry match and its three rescans compute the model's `refreshed` caches; the rest
of the body is `genEnd` -/
theorem ts_vminmaxnorm_refreshed (sqrt : Rat → Rat) (xs : List (Option Rat)) (len w mp : Nat)
    (a : Option Rat) (ai : Nat) (b : Option Rat) (bi n : Nat) (start : Option Nat) (e : Nat) (v : Option Rat) :
    Gen.ts_vminmaxnorm.step sqrt xs len w mp ⟨a, ai, b, bi, n⟩ start e v =
      genEnd xs mp (refreshed (C03.get xs) ⟨(a, ai), (b, bi), n⟩ start e).1
        (refreshed (C03.get xs) ⟨(a, ai), (b, bi), n⟩ start e).2 n start e v := by
  cases start with
  | none => cases v <;> rfl
  | some s =>
    -- `↓reduceIte` decides each expiry condition before `simp` enters the arms: the dead arms are not visited
    by_cases c1 : ai < s <;> by_cases c2 : bi < s <;>
      simp only [Gen.ts_vminmaxnorm.step, refreshed, geS_eq, leS_eq, uget_eq, c1, c2, decide_true, decide_false,
        Bool.not_true, Bool.not_false, Bool.and_true, Bool.and_false, ↓reduceIte, Bool.false_eq_true]
    · rw [rescan2 (C03.get xs) _ (by
        intro a b c d i
        cases C03.get xs i <;> rfl) a b]
      cases v <;> rfl
    · rw [rescan1 C03.geS (C03.get xs) _ (by
        intro st i
        cases C03.get xs i <;> rfl) a]
      cases v <;> rfl
    · rw [rescan1 C03.leS (C03.get xs) _ (by
        intro st i
        cases C03.get xs i <;> rfl) b]
      cases v <;> rfl
    · cases v <;> rfl

theorem ts_vminmaxnorm_step (sqrt : Rat → Rat) (xs : List (Option Rat)) (len w mp : Nat)
    (g : Gen.ts_vminmaxnorm.St) (m : MMSt) (c : Option Nat × Nat × Option Rat) (h : R_ts_vminmaxnorm g m) :
    R_ts_vminmaxnorm (Gen.ts_vminmaxnorm.step sqrt xs len w mp g c.1 c.2.1 c.2.2).1 (mmStep (C03.get xs) mp m c).1 ∧
    Agree sqrt (Gen.ts_vminmaxnorm.step sqrt xs len w mp g c.1 c.2.1 c.2.2).2 (mmStep (C03.get xs) mp m c).2 := by
  obtain ⟨start, e, v⟩ := c
  rcases g with ⟨a, ai, b, bi, n⟩
  obtain ⟨rfl, rfl, rfl, rfl, rfl⟩ := h
  rw [mmStep_eq, ts_vminmaxnorm_refreshed]
  exact genEnd_agree sqrt xs mp _ _ _ start e v

theorem ts_vminmaxnorm_window (len w : Nat) : Gen.ts_vminmaxnorm.effWindow len w = w := rfl
theorem ts_vminmaxnorm_minPeriods (len w : Nat) (mp : Option Nat) :
    Gen.ts_vminmaxnorm.minPeriods len w mp = normMp mp w := by
  simp [Gen.ts_vminmaxnorm.minPeriods, normMp]

/-- the closure regenerated from the source of `ts_vminmaxnorm` (sentinel-initialised caches, the
four-way expiry match, the three rescans), driven over the index callbacks of either driver shape,
yields the from-scratch statistic of the window at every position -/
theorem ts_vminmaxnorm_exact (sqrt : Rat → Rat) (sh : Shape) (xs : List (Option Rat)) (w : Nat) (mp : Option Nat) (hw : 1 ≤ w) :
    List.Forall₂ (Agree sqrt)
      (genRunIdx (Gen.ts_vminmaxnorm.step sqrt xs xs.length w (Gen.ts_vminmaxnorm.minPeriods xs.length w mp))
        (Gen.ts_vminmaxnorm.init xs.length w) (idxCalls sh xs (Gen.ts_vminmaxnorm.effWindow xs.length w)))
      ((List.range xs.length).map fun i => Spec.tsMinmaxnorm (normMp mp w) (window xs i w)) := by
  rw [ts_vminmaxnorm_window, ts_vminmaxnorm_minPeriods, ← C03.vminmaxnorm_exact sh xs w mp hw]
  exact runSt_sim _ _ R_ts_vminmaxnorm (Agree sqrt) (fun s t c hr => ts_vminmaxnorm_step sqrt xs xs.length w _ s t c hr) _ _ _
    (by simp [R_ts_vminmaxnorm, Gen.ts_vminmaxnorm.init])

theorem ts_vminmaxnorm_from_source (sqrt : Rat → Rat) (xs : List (Option Rat)) (w : Nat) (mp : Option Nat) (hw : 1 ≤ w) :
    C02Gen.E2EIdx (fun cs => List.Forall₂ (Agree sqrt)
      (genRunIdx (Gen.ts_vminmaxnorm.step sqrt xs xs.length w (Gen.ts_vminmaxnorm.minPeriods xs.length w mp)) (Gen.ts_vminmaxnorm.init xs.length w) cs)
      ((List.range xs.length).map fun i => Spec.tsMinmaxnorm (normMp mp w) (window xs i w)))
      xs (Gen.ts_vminmaxnorm.effWindow xs.length w) :=
  C02Gen.e2e_idx _ xs _ hw (ts_vminmaxnorm_exact sqrt .to xs w mp hw) (ts_vminmaxnorm_exact sqrt .iter xs w mp hw)

theorem norm_closures_present : "ts_vminmaxnorm" ∈ Gen.closures ∧ Gen.ts_vminmaxnorm.parsed = true ∧
    Gen.ts_vminmaxnorm.driver = "rolling_apply_idx" := by
  refine ⟨by repeat constructor, rfl, rfl⟩

end Tv.C03Gen
