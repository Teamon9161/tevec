import Tv.GenLin
import Tv.Thm.C19
/-!
# C19 — `linspace` and `range` regenerated from linspace.rs are the model's constructors

`Tv.GenLin.<fn>.run` is written by translator/gens.py from the Rust source on every run, generic in
the element type (division, `ceil` and `as usize` from the model's `NumOps`).  This file proves,
for every element type with the listed operations and every argument: the regenerated `linspace`
returns exactly the fields of the model's `Linspace`, and the regenerated `range` panics exactly
when the model's does (zero step) and otherwise returns exactly the model's fields — in particular
the element count `rangeLen`, whose exactness against the mathematical count is `C19.range_exact_*`.
-/
set_option linter.unusedSectionVars false
namespace Tv.C19Gen
open Tv Tv.C19

variable {α : Type} [Add α] [Sub α] [Mul α] [NatCast α] [OfNat α 0] [OfNat α 1]
  [LT α] [DecidableLT α] [DecidableEq α]

theorem linspace_eq (ops : NumOps α) (a b : α) (n : Nat) :
    GenLin.linspace.run ops a b n =
      some ((linspace ops a b n).start, (linspace ops a b n).step, (linspace ops a b n).index, (linspace ops a b n).len) := by
  simp only [GenLin.linspace.run, C19.linspace, decide_eq_true_eq]

theorem range_eq (ops : NumOps α) (a b step : α) :
    GenLin.range.run ops a b step =
      match C19.range ops a b step with
      | .ok s => some (s.start, s.step, s.index, s.len)
      | _ => none := by
  simp only [GenLin.range.run, C19.range, C19.rangeLen]
  by_cases hs : step = 0
  · simp [hs]
  · simp only [hs, Bool.not_true, Bool.false_eq_true, if_false,
      decide_eq_true_eq, Bool.and_eq_true, Bool.or_eq_true, ne_eq, not_false_eq_true, decide_true, gt_iff_lt,
      Bool.not_eq_true', decide_eq_false_iff_not]

/-- on exactly representable rationals (the `f64` reading) the regenerated `range` yields
`countBefore a b step` elements: the number of `k` with `a + k·step` strictly before `b` -/
theorem range_len_rat (a b step : Rat) (hs : step ≠ 0) (hc : Spec.countBefore a b step < usizeMod) :
    GenLin.range.run ratOps a b step = some (a, step, 0, Spec.countBefore a b step) := by
  rw [range_eq, range_rat a b step hs hc]

/-- integers (truncating division, identity `ceil`): the same count, so no element is dropped when
the span is not a multiple of the step -/
theorem range_len_int (a b step : Int) (hs : step ≠ 0)
    (hc : Spec.countBefore (a : Rat) (b : Rat) (step : Rat) < usizeMod) :
    GenLin.range.run intOps a b step = some (a, step, 0, Spec.countBefore (a : Rat) (b : Rat) (step : Rat)) := by
  rw [range_eq, range_int a b step hs hc]

theorem functions_present : GenLin.functions = ["linspace", "range"] := rfl

end Tv.C19Gen
