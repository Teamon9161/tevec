import Tv.GenRank
import Tv.Thm.C12GenB
/-!
# C10 — the ranking kernel regenerated from source never indexes out of bounds

`Tv.GenRank.vrank.trace` (translator/ranks.py, instrumented variant) is the body of `vrank`
statement by statement with every unchecked access — `self.uget(i)`, `idx_sorted.uget(i)`,
`out.uset(i, v)`: 29 sites — logged as `(index, length of the container)` in execution order, and
with the `usize` subtractions inside the loops (`i - j`) read as a release build computes them
(`Gen.wsub`: wrapping modulo 2^64). `trace_in_bounds` proves, for every series, `pct`, `rev` and
every sort satisfying std's contract (`S.Ok`: the argsort is a permutation of `0..len`), that every
logged index is below the length of the container it is applied to: the loop bounds `0..len-1`,
`idx..len`, `len - repeat_num..len`, the look-ahead `i + 1`, the back-references `i - j`
(`repeat_num ≤ i + 1` is the loop invariant that keeps them from wrapping) and the positions taken
from the argsort are all in range, however long the history of ties and nulls.
-/
namespace Tv.C10GenB
open Tv Tv.C12 Tv.Gen Tv.C12GenB

/-- every logged access is in range -/
def Good (l : List (Nat × Nat)) : Prop := ∀ e ∈ l, e.1 < e.2

theorem good_nil : Good [] := by intro e h; cases h

theorem good_snoc (l : List (Nat × Nat)) (i n : Nat) : Good (l ++ [(i, n)]) ↔ Good l ∧ i < n := by
  unfold Good
  rw [List.forall_mem_append, List.forall_mem_singleton]

theorem good_ite {c : Prop} [Decidable c] {a b : List (Nat × Nat)} (ha : c → Good a)
    (hb : ¬ c → Good b) : Good (if c then a else b) :=
  iteInduction (motive := Good) ha hb

theorem wsub_le (a b : Nat) (h : b ≤ a) : wsub a b = a - b := by simp [wsub, h]

/-- invariant reasoning for `forBreak` over a range: the body moves the invariant from `i` to
`i + 1`; the loop ends (by exhaustion or `break`) with the invariant at some `k ≤ a + n` -/
theorem forBreak_inv {σ : Type} (Inv : σ → Nat → Prop) (body : σ → Nat → σ × Bool) :
    ∀ (n a : Nat) (s : σ), Inv s a →
      (∀ st i, a ≤ i → i < a + n → Inv st i → Inv (body st i).1 (i + 1)) →
      ∃ k, a ≤ k ∧ k ≤ a + n ∧ Inv (forBreak (List.range' a n) body s) k := by
  intro n
  induction n with
  | zero => intro a s h _; exact ⟨a, Nat.le_refl _, Nat.le_refl _, h⟩
  | succ n ih =>
    intro a s h hstep
    rw [List.range'_succ, forBreak_cons]
    have h1 := hstep s a (Nat.le_refl _) (by omega) h
    cases hb : (body s a).2
    · simp only [Bool.false_eq_true, if_false]
      obtain ⟨k, hk1, hk2, hk3⟩ := ih (a + 1) (body s a).1 h1
        (fun st i hi1 hi2 hinv => hstep st i (by omega) (by omega) hinv)
      exact ⟨k, by omega, by omega, hk3⟩
    · simp only [if_true]
      exact ⟨a + 1, by omega, by omega, h1⟩

/-- … with the loop given by an equation (the generated lambda is found by unification) -/
theorem loop_inv {σ : Type} {body : σ → Nat → σ × Bool} {n a : Nat} {s w : σ}
    (hw : forBreak (List.range' a n) body s = w) (Inv : σ → Nat → Prop) (h0 : Inv s a)
    (hstep : ∀ st i, a ≤ i → i < a + n → Inv st i → Inv (body st i).1 (i + 1)) :
    ∃ k, a ≤ k ∧ k ≤ a + n ∧ Inv w k := by
  rw [← hw]; exact forBreak_inv Inv body n a s h0 hstep

/-- a write loop `for i in a..a+n { out.uset(idx_sorted.uget(g i), v) }` with `g i < len` -/
theorem write_loop (s : List Nat) (len : Nat) (hs : s.length = len) (hsv : ∀ k, s.getD k 0 < len)
    (g : Nat → Nat) (v : Option Rat)
    {G : List (Nat × Nat) × List (Option (Option Rat)) → Nat → (List (Nat × Nat) × List (Option (Option Rat))) × Bool}
    {n a : Nat} {l : List (Nat × Nat)} {o : List (Option (Option Rat))}
    {w : List (Nat × Nat) × List (Option (Option Rat))}
    (hw : forBreak (List.range' a n) G (l, o) = w)
    (hG : ∀ l o j, G (l, o) j =
      (((l ++ [(g j, s.length)]) ++ [(s.getD (g j) 0, o.length)], o.set (s.getD (g j) 0) (some v)), false))
    (hg : ∀ j, a ≤ j → j < a + n → g j < len) (hl : Good l) (ho : o.length = len) :
    Good w.1 ∧ w.2.length = len := by
  obtain ⟨k, _, _, hk⟩ := loop_inv hw (fun st _ => Good st.1 ∧ st.2.length = len) ⟨hl, ho⟩
    (by
      rintro ⟨l', o'⟩ j hj1 hj2 ⟨h1, h2⟩
      rw [hG]
      simp only [good_snoc, List.length_set]
      exact ⟨⟨⟨h1, by rw [hs]; exact hg j hj1 hj2⟩, by rw [h2]; exact hsv _⟩, h2⟩)
  exact hk

theorem perm_range_facts {s : List Nat} {len : Nat} (hp : s.Perm (List.range len)) (hlen : 0 < len) :
    s.length = len ∧ ∀ k, s.getD k 0 < len := by
  refine ⟨by simpa using hp.length_eq, ?_⟩
  intro k
  rw [List.getD_eq_getElem?_getD]
  cases h : s[k]? with
  | none => simpa using hlen
  | some v =>
    have : v ∈ s := List.mem_of_getElem? h
    have := (hp.mem_iff).mp this
    simpa using this

/-! ### the two copies of the loops

As in `Thm/C12GenB.lean`: the loops of `vrank.trace` with the written floats as parameters (they
play no part in the indices). -/

abbrev TraceSt := List (Nat × Nat) × LoopSt

/-- body of a write loop `out.uset(idx_sorted.uget(g j), v)` with its two logged accesses -/
def writeT (s : List Nat) (g : Nat → Nat) (v : Option Rat) :
    List (Nat × Nat) × List (Option (Option Rat)) → Nat →
      (List (Nat × Nat) × List (Option (Option Rat))) × Bool :=
  fun (log, out) j =>
    ((log ++ [(g j, s.length)] ++ [(s.getD (g j) 0, out.length)], out.set (s.getD (g j) 0) (some v)),
      false)

def stepT (xs : List Elem) (s : List Nat) (runV : Nat → Nat → Rat) (oneV : Nat → Rat) :
    TraceSt → Nat → TraceSt × Bool :=
  fun (log, out, rep, nan, cur, sum, _) i =>
    let idx := s.getD i 0
    let log := log ++ [(i, s.length)] ++ [(i + 1, s.length)] ++ [(idx, xs.length)] ++
      [(s.getD (i + 1) 0, xs.length)]
    let run := forBreak (List.range' 0 (rep - 0))
      (writeT s (wsub i) (some (runV (sum + cur) rep))) (log, out)
    if (xs.getD (s.getD (i + 1) 0) none).isNone then
      ((run.1, run.2, rep, true, cur + 1, sum + cur, i + 1), true)
    else if decide (xs.getD idx none = xs.getD (s.getD (i + 1) 0) none) then
      ((log, out, rep + 1, nan, cur + 1, sum + cur, idx), false)
    else if decide (rep = 1) then
      ((log ++ [(idx, out.length)], out.set idx (some (some (oneV cur))), rep, nan, cur + 1, sum, idx),
        false)
    else ((run.1, run.2, 1, nan, cur + 1, 0, idx), false)

def finishT (s : List Nat) (len : Nat) (runV : Nat → Nat → Rat) : TraceSt → List (Nat × Nat) :=
  fun (log, out, rep, nan, cur, sum, idx) =>
    if nan then
      (forBreak (List.range' idx (len - idx)) (writeT s id none) (log, out)).1
    else if decide (rep ≤ len) then
      (forBreak (List.range' (len - rep) (len - (len - rep)))
        (writeT s id (some (runV (sum + cur) rep))) (log, out)).1
    else log

/-- what the run-length loop keeps: the log in range, the output buffer at its length, and
`repeat_num ≤ i + 1`, which keeps the back-references `i - j` from wrapping -/
def Inv (len : Nat) : TraceSt → Nat → Prop
  | (log, out, rep, _), i => Good log ∧ out.length = len ∧ rep ≤ i + 1

/-- the inner write loop over the `repeat_num ≤ i + 1` back-references `i - j` -/
theorem run_write {s : List Nat} {len : Nat} (hs : s.length = len) (hsv : ∀ k, s.getD k 0 < len)
    (v : Option Rat) {i rep : Nat} (hr : rep ≤ i + 1) (hi : i < len) {l : List (Nat × Nat)}
    {o : List (Option (Option Rat))} (hl : Good l) (ho : o.length = len) :
    Good (forBreak (List.range' 0 (rep - 0)) (writeT s (wsub i) v) (l, o)).1 ∧
      (forBreak (List.range' 0 (rep - 0)) (writeT s (wsub i) v) (l, o)).2.length = len :=
  write_loop s len hs hsv (wsub i) v rfl (fun _ _ _ => rfl)
    (fun j _ hj => by rw [wsub_le i j (by omega)]; omega) hl ho

theorem stepT_inv {xs : List Elem} {s : List Nat} (hs : s.length = xs.length)
    (hsv : ∀ k, s.getD k 0 < xs.length) (runV : Nat → Nat → Rat) (oneV : Nat → Rat)
    (t : TraceSt) (i : Nat) (hi : i + 1 < xs.length) (h : Inv xs.length t i) :
    Inv xs.length (stepT xs s runV oneV t i).1 (i + 1) := by
  obtain ⟨log, out, rep, nan, cur, sum, idx⟩ := t
  obtain ⟨hg, ho, hr⟩ := h
  have hg4 : Good (log ++ [(i, s.length)] ++ [(i + 1, s.length)] ++ [(s.getD i 0, xs.length)] ++
      [(s.getD (i + 1) 0, xs.length)]) := by
    simp only [good_snoc, hs]
    exact ⟨⟨⟨⟨hg, Nat.lt_of_succ_lt hi⟩, hi⟩, hsv _⟩, hsv _⟩
  have hrun := fun v => run_write hs hsv v hr (Nat.lt_of_succ_lt hi) hg4 ho
  unfold stepT
  have keep : ∀ {c : Prop} [Decidable c] {a b : TraceSt × Bool}, (c → Inv xs.length a.1 (i + 1)) →
      (¬ c → Inv xs.length b.1 (i + 1)) → Inv xs.length (if c then a else b).1 (i + 1) :=
    fun ha hb => iteInduction (motive := fun z : TraceSt × Bool => Inv xs.length z.1 (i + 1)) ha hb
  exact keep (fun _ => ⟨(hrun _).1, (hrun _).2, Nat.le_succ_of_le hr⟩) fun _ => keep
    (fun _ => ⟨hg4, ho, Nat.succ_le_succ hr⟩) fun _ => keep
    (fun _ => ⟨(good_snoc _ _ _).mpr ⟨hg4, by rw [ho]; exact hsv _⟩,
      by rw [List.length_set]; exact ho, Nat.le_succ_of_le hr⟩)
    (fun _ => ⟨(hrun _).1, (hrun _).2, Nat.succ_le_succ (Nat.zero_le _)⟩)

theorem finishT_good {s : List Nat} {len : Nat} (hs : s.length = len) (hsv : ∀ k, s.getD k 0 < len)
    (runV : Nat → Nat → Rat) (t : TraceSt) (k : Nat) (h : Inv len t k) :
    Good (finishT s len runV t) := by
  obtain ⟨log, out, rep, nan, cur, sum, idx⟩ := t
  obtain ⟨hg, ho, _⟩ := h
  unfold finishT
  exact iteInduction
    (fun _ => (write_loop s len hs hsv id _ rfl (fun _ _ _ => rfl)
      (fun j h1 h2 => by show j < len; omega) hg ho).1) fun _ => iteInduction
    (fun hr => (write_loop s len hs hsv id _ rfl (fun _ _ _ => rfl)
      (fun j h1 h2 => by have := of_decide_eq_true hr; show j < len; omega) hg ho).1)
    (fun _ => hg)

/-- the two accesses logged before the loops: `idx_sorted.uget(0)` and `self.uget` of it -/
def logInit (xs : List Elem) (s : List Nat) : List (Nat × Nat) :=
  [] ++ [(0, s.length)] ++ [(s.getD 0 0, xs.length)]

/-- the instrumented text after the argsort `s` -/
def sortedT (xs : List Elem) (pct : Bool) (s : List Nat) : List (Nat × Nat) :=
  let len := xs.length
  let loops := fun (runV : Nat → Nat → Rat) (oneV : Nat → Rat) =>
    if decide (1 ≤ len) then
      finishT s len runV (forBreak (List.range' 0 (len - 1 - 0)) (stepT xs s runV oneV)
        (logInit xs s, List.replicate len none, 1, false, 1, 0, 0))
    else logInit xs s
  if (xs.getD (s.getD 0 0) none).isNone then logInit xs s
  else if !pct then loops (fun sum rep => (sum : Rat) / (rep : Rat)) (fun cur => (cur : Rat))
  else
    let nn := GenAgg.count_valid.run (fun x => x) xs
    loops (fun sum rep => (sum : Rat) / ((rep * nn : Nat) : Rat)) (fun cur => (cur : Rat) / (nn : Rat))

theorem sortedT_good {xs : List Elem} {s : List Nat} (hp : s.Perm (List.range xs.length))
    (hlen : 0 < xs.length) (pct : Bool) : Good (sortedT xs pct s) := by
  obtain ⟨hs, hsv⟩ := perm_range_facts hp hlen
  have hg0 : Good (logInit xs s) := by
    simp only [logInit, good_snoc, hs]
    exact ⟨⟨good_nil, hlen⟩, hsv _⟩
  have loops : ∀ runV oneV, Good (finishT s xs.length runV
      (forBreak (List.range' 0 (xs.length - 1 - 0)) (stepT xs s runV oneV)
        (logInit xs s, List.replicate xs.length none, 1, false, 1, 0, 0))) := by
    intro runV oneV
    obtain ⟨k, _, _, hk⟩ := forBreak_inv (Inv xs.length) (stepT xs s runV oneV) (xs.length - 1 - 0) 0
      (logInit xs s, List.replicate xs.length none, 1, false, 1, 0, 0)
      ⟨hg0, List.length_replicate, Nat.le_refl _⟩
      (fun t i _ hi => stepT_inv hs hsv runV oneV t i (by omega))
    exact finishT_good hs hsv runV _ k hk
  unfold sortedT
  exact good_ite (fun _ => hg0) fun _ => good_ite
    (fun _ => good_ite (fun _ => loops _ _) fun _ => hg0)
    (fun _ => good_ite (fun _ => loops _ _) fun _ => hg0)

attribute [local irreducible] forBreak in
/-- `vrank.trace` is this text. (`forBreak` is sealed for the comparison: the unifier would
otherwise evaluate every loop, stuck on its symbolic bound, before looking at its body.) -/
theorem trace_folded (S : Std) (xs : List (Option Rat)) (pct rev : Bool) :
    GenRank.vrank.trace S xs pct rev =
      if decide (xs.length = 0) then []
      else if decide (xs.length = 1) then
        if (xs.getD 0 none).isNone then [] ++ [(0, xs.length)] else [] ++ [(0, xs.length)]
      else if !rev then sortedT xs pct (S.sort (leIdx false xs) (List.range xs.length))
      else sortedT xs pct (S.sort (leIdx true xs) (List.range xs.length)) := by rfl

theorem trace_in_bounds {S : Std} (hS : S.Ok) (xs : List (Option Rat)) (pct rev : Bool) :
    Good (GenRank.vrank.trace S xs pct rev) := by
  rw [trace_folded]
  refine good_ite (fun _ => good_nil) fun h0 => good_ite (fun h1 => ?_) fun _ => ?_
  · have h1 : xs.length = 1 := of_decide_eq_true h1
    exact good_ite (fun _ => (good_snoc _ _ _).mpr ⟨good_nil, h1 ▸ Nat.one_pos⟩)
      (fun _ => (good_snoc _ _ _).mpr ⟨good_nil, h1 ▸ Nat.one_pos⟩)
  · have h0 : 0 < xs.length := Nat.pos_of_ne_zero (of_decide_eq_false (Bool.eq_false_iff.mpr h0))
    exact good_ite (fun _ => sortedT_good (hS.sort_perm _ _) h0 pct)
      (fun _ => sortedT_good (hS.sort_perm _ _) h0 pct)

/-- the instrumented variant has the 29 access sites of the source (an added or removed unchecked
access changes this number) -/
theorem trace_present : GenRank.vrank.accessSites = 29 ∧ GenRank.vrank.parsed = true := ⟨rfl, rfl⟩

/-- non-vacuity: a series with ties, a null and both flags — 39 accesses, all in range -/
example : (GenRank.vrank.trace Std.exec [some 3, some 1, some 3, none, some 2, some 1, some 1] true true).length = 39 := by
  decide +kernel

end Tv.C10GenB
