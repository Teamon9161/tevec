import Tv.Thm.C07
import Tv.Thm.C01Gen
import Tv.Thm.C03Gen
import Tv.Thm.C04Gen
set_option linter.unusedVariables false
/-!
# C07 — fast path and default path of the code regenerated from source give the same results

The contiguous backends (Vec, slice, array, ndarray) override the rolling drivers with the `*_to`
fast paths, every other backend (VecDeque, Arc-wrapped containers, the option view, Polars) runs
the default iterator bodies; a caller buffer always takes the `*_to` path. Both driver shapes are
regenerated from view.rs (C02Gen) and every closure from tea-rolling (C01Gen, C03Gen, C04Gen): the
regenerated closure driven over the callbacks of *either* shape agrees at every position with one
and the same from-scratch statistic of the window. Hence which backend, output container or path is
taken cannot change a result (up to `Agree`, i.e. the reading of a value as a float).
-/
namespace Tv.C07Gen
open Tv Tv.GenSim
open Tv.C03Gen (genRunIdx)

/-- generic: two runs that agree position by position with the same list of reference values
agree with each other's reference at every position -/
theorem same_reference {β γ : Type} (R : β → γ → Prop) (l1 l2 : List β) (L : List γ)
    (h1 : List.Forall₂ R l1 L) (h2 : List.Forall₂ R l2 L) (i : Nat) (hi : i < L.length) :
    ∃ a b, l1[i]? = some a ∧ l2[i]? = some b ∧ R a L[i] ∧ R b L[i] := by
  obtain ⟨a, ha, ra⟩ := getElem?_of_forall₂ h1 (List.getElem?_eq_getElem hi)
  obtain ⟨b, hb, rb⟩ := getElem?_of_forall₂ h2 (List.getElem?_eq_getElem hi)
  exact ⟨a, b, ha, hb, ra, rb⟩

/-- the same when the reference values are listed by position -/
theorem same_reference_range {β γ : Type} (R : β → γ → Prop) (l1 l2 : List β) (n : Nat) (F : Nat → γ)
    (h1 : List.Forall₂ R l1 ((List.range n).map F)) (h2 : List.Forall₂ R l2 ((List.range n).map F))
    (i : Nat) (hi : i < n) : ∃ a b, l1[i]? = some a ∧ l2[i]? = some b ∧ R a (F i) ∧ R b (F i) := by
  have h := same_reference R l1 l2 _ h1 h2 i (by rw [List.length_map, List.length_range]; exact hi)
  rwa [List.getElem_map, List.getElem_range] at h

/-- regenerated `ts_vsum`: fast path and iterator path -/
theorem ts_vsum_path_indep (sqrt : Rat → Rat) (xs : List (Option Rat)) (w : Nat) (mp : Option Nat) (hw : 1 ≤ w)
    (i : Nat) (hi : i < xs.length) :
    ∃ a b,
      (genRun (Gen.ts_vsum.step sqrt w (Gen.ts_vsum.minPeriods w mp)) (Gen.ts_vsum.init w) (applyCalls .to xs w))[i]? = some a ∧
      (genRun (Gen.ts_vsum.step sqrt w (Gen.ts_vsum.minPeriods w mp)) (Gen.ts_vsum.init w) (applyCalls .iter xs w))[i]? = some b ∧
      Agree sqrt a (Spec.feat .sum w mp (vwin xs i w)) ∧ Agree sqrt b (Spec.feat .sum w mp (vwin xs i w)) :=
  same_reference_range (Agree sqrt) _ _ _ _ (C01Gen.ts_vsum_exact sqrt .to xs w mp hw)
    (C01Gen.ts_vsum_exact sqrt .iter xs w mp hw) i hi

theorem ts_vkurt_path_indep (sqrt : Rat → Rat) (xs : List (Option Rat)) (w : Nat) (mp : Option Nat) (hw : 1 ≤ w)
    (i : Nat) (hi : i < xs.length) :
    ∃ a b,
      (genRun (Gen.ts_vkurt.step sqrt w (Gen.ts_vkurt.minPeriods w mp)) (Gen.ts_vkurt.init w) (applyCalls .to xs w))[i]? = some a ∧
      (genRun (Gen.ts_vkurt.step sqrt w (Gen.ts_vkurt.minPeriods w mp)) (Gen.ts_vkurt.init w) (applyCalls .iter xs w))[i]? = some b ∧
      Agree sqrt a (Spec.feat .kurt w mp (vwin xs i w)) ∧ Agree sqrt b (Spec.feat .kurt w mp (vwin xs i w)) :=
  same_reference_range (Agree sqrt) _ _ _ _ (C01Gen.ts_vkurt_exact sqrt .to xs w mp hw)
    (C01Gen.ts_vkurt_exact sqrt .iter xs w mp hw) i hi

/-- regenerated `ts_vmax` (index drivers) -/
theorem ts_vmax_path_indep (sqrt : Rat → Rat) (xs : List (Option Rat)) (w : Nat) (mp : Option Nat) (hw : 1 ≤ w)
    (i : Nat) (hi : i < xs.length) :
    ∃ a b,
      (genRunIdx (Gen.ts_vmax.step sqrt xs xs.length w (Gen.ts_vmax.minPeriods xs.length w mp))
        (Gen.ts_vmax.init xs.length w) (idxCalls .to xs (Gen.ts_vmax.effWindow xs.length w)))[i]? = some a ∧
      (genRunIdx (Gen.ts_vmax.step sqrt xs xs.length w (Gen.ts_vmax.minPeriods xs.length w mp))
        (Gen.ts_vmax.init xs.length w) (idxCalls .iter xs (Gen.ts_vmax.effWindow xs.length w)))[i]? = some b ∧
      Agree sqrt a (C03.Spec.tsMax (C03.cmpMp mp w xs.length) (window xs i w)) ∧
      Agree sqrt b (C03.Spec.tsMax (C03.cmpMp mp w xs.length) (window xs i w)) :=
  same_reference_range (Agree sqrt) _ _ _ _ (C03Gen.ts_vmax_exact sqrt .to xs w mp hw)
    (C03Gen.ts_vmax_exact sqrt .iter xs w mp hw) i hi

/-- regenerated `ts_vrank` (index drivers) -/
theorem ts_vrank_path_indep (sqrt : Rat → Rat) (xs : List (Option Rat)) (w : Nat) (mp : Option Nat) (pct rev : Bool)
    (hw : 1 ≤ w) (i : Nat) (hi : i < xs.length) :
    ∃ a b,
      (genRunIdx (Gen.ts_vrank.step sqrt xs xs.length w (Gen.ts_vrank.minPeriods xs.length w mp) pct rev)
        (Gen.ts_vrank.init xs.length w) (idxCalls .to xs (Gen.ts_vrank.effWindow xs.length w)))[i]? = some a ∧
      (genRunIdx (Gen.ts_vrank.step sqrt xs xs.length w (Gen.ts_vrank.minPeriods xs.length w mp) pct rev)
        (Gen.ts_vrank.init xs.length w) (idxCalls .iter xs (Gen.ts_vrank.effWindow xs.length w)))[i]? = some b ∧
      Agree sqrt a (C03.Spec.tsRank (C03.cmpMp mp w xs.length) pct rev (window xs i w)) ∧
      Agree sqrt b (C03.Spec.tsRank (C03.cmpMp mp w xs.length) pct rev (window xs i w)) :=
  same_reference_range (Agree sqrt) _ _ _ _ (C03Gen.ts_vrank_exact sqrt .to xs w mp pct rev hw)
    (C03Gen.ts_vrank_exact sqrt .iter xs w mp pct rev hw) i hi

/-- regenerated `ts_vcov` (two-series drivers). Stated as the two runs against the one reference
list, not position by position as above: `C04.Spec.rolling2 …` is a map over `List.range` only
after unfolding, and `same_reference_range` takes the reference in that form -/
theorem ts_vcov_path_indep (sqrt : Rat → Rat) (xs ys : List (Option Rat)) (w : Nat) (mp : Option Nat)
    (hw : 1 ≤ w) (hlen : ys.length = xs.length) :
    List.Forall₂ (Agree sqrt)
      (genRun (Gen.ts_vcov.step sqrt w (Gen.ts_vcov.minPeriods w mp)) (Gen.ts_vcov.init w) (apply2Calls .to xs ys w))
      (C04.Spec.rolling2 (C04.Spec.cov (effMp mp w 2)) xs ys w) ∧
    List.Forall₂ (Agree sqrt)
      (genRun (Gen.ts_vcov.step sqrt w (Gen.ts_vcov.minPeriods w mp)) (Gen.ts_vcov.init w) (apply2Calls .iter xs ys w))
      (C04.Spec.rolling2 (C04.Spec.cov (effMp mp w 2)) xs ys w) :=
  ⟨C04Gen.ts_vcov_exact sqrt .to xs ys w mp hw hlen, C04Gen.ts_vcov_exact sqrt .iter xs ys w mp hw hlen⟩

/-- regenerated `ts_vreg` (trend regression on one series), in the same form -/
theorem ts_vreg_path_indep (sqrt : Rat → Rat) (xs : List (Option Rat)) (w : Nat) (mp : Option Nat) (hw : 1 ≤ w) :
    List.Forall₂ (Agree sqrt)
      (genRun (Gen.ts_vreg.step sqrt w (Gen.ts_vreg.minPeriods w mp)) (Gen.ts_vreg.init w) (applyCalls .to xs w))
      (C04.Spec.rolling1 (C04.Spec.trendFitted (effMp mp w 0)) xs w) ∧
    List.Forall₂ (Agree sqrt)
      (genRun (Gen.ts_vreg.step sqrt w (Gen.ts_vreg.minPeriods w mp)) (Gen.ts_vreg.init w) (applyCalls .iter xs w))
      (C04.Spec.rolling1 (C04.Spec.trendFitted (effMp mp w 0)) xs w) :=
  ⟨C04Gen.ts_vreg_exact sqrt .to xs w mp hw, C04Gen.ts_vreg_exact sqrt .iter xs w mp hw⟩

end Tv.C07Gen
