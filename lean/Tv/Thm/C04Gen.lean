import Tv.GenClosures
import Tv.Thm.C02Gen
import Tv.Lemmas.GenSim
import Tv.Thm.C04
import Tv.Thm.C11GenA
import Mathlib.Tactic.NormNum
/-!
# C04 — the closures regenerated from binary.rs / reg.rs are the model's closures

`Tv.Gen.<fn>.step` is written by translator/closures.py from the Rust source on every run.
For each of the 10 `rolling2_apply` / `rolling_apply` entry points of tea-rolling/src/binary.rs and
reg.rs that the translator covers (`ts_vcov`, `ts_vcorr`, `ts_vregx_alpha`, `ts_vregx_beta`,
`ts_vregx_all`, `ts_vreg`, `ts_vtsf`, `ts_vreg_slope`, `ts_vreg_intercept`, `ts_vreg_resid_mean`)
this file proves that the regenerated closure simulates the hand-written model closure of
`Model/C04.lean` part by part: started in `of_<fn> m` — the model state `m` cut down to exactly the
running sums the Rust closure keeps — its `add` and `post` lead to `of_<fn>` of the model's next
state and its `emit` agrees with the model's (`*_emit`; `run_of_parts` assembles the three, using
the decomposition `step_eq` / `pre_eq` of the generated file); that its `min_periods` expression is
the model's mask (`*_minPeriods`); and — composing with the main theorems of `Thm/C04.lean` — that the
regenerated closure, driven over the callback sequence of either driver shape, produces the
from-scratch statistic at every position (`*_exact`).

The model's `Cross` / `Trend` records carry more sums than some closures keep; each model `emit`
reads only the kept ones, which is what makes `*_emit` provable on `of_<fn> m`.  No invariant
beyond equality of the kept sums is needed: wherever the generated `Rat` code (totalised
`x / 0 = 0`, truncated `n - 1`) could differ from the exact value, the model token is `degen`,
which `Agree` exempts.

`Agree sqrt o t` reads the model's `root s q` token as `s * sqrt q`; the correlation closed form is
rewritten under the root sign in the model (`sign(c)·sqrt(c²/(var_a var_b))` for
`c / sqrt(var_a var_b)`), so its values are compared by the weak form `AgreeW` (mask and branch
structure) and by the correspondence run.  `ts_vregx_all` returns a triple; `Agree3` is `Agree`
componentwise.
-/
namespace Tv.C04Gen
open Tv Tv.GenSim Tv.C04 Tv.Spec Tv.C04.Spec

theorem eps_eq : Gen.EPS = EPS := by norm_num [Gen.EPS, EPS]

def Agree3 (sqrt : Rat → Rat) (o : Option Rat × Option Rat × Option Rat) (t : Out × Out × Out) : Prop :=
  Agree sqrt o.1 t.1 ∧ Agree sqrt o.2.1 t.2.1 ∧ Agree sqrt o.2.2 t.2.2

section Parts
variable {σ τ α β γ : Type} {step : σ → Option α → α → σ × β} {pre : σ → α → σ × β}
  {post : σ → Option α → σ} {add : σ → α → σ} {emit : σ → α → β} (r : Roll τ α γ) (of : τ → σ)
  {A : β → γ → Prop}
  (hs : ∀ s rm v, step s rm v = (post (pre s v).1 rm, (pre s v).2))
  (hp : ∀ s v, pre s v = (add s v, emit (add s v) v))
  (hadd : ∀ m v, add (of m) v = of (r.add m v))
  (hpost : ∀ m x, post (of m) (some x) = of (r.remove m x))
  (hpost0 : ∀ g, post g none = g)
  (hemit : ∀ m v, A (emit (of m) v) (r.emit m))
include hs hp hadd hpost hpost0 hemit

/-- One call of a closure the translator decomposed (`step_eq`, `pre_eq` of the generated file):
if its state is `of m` for the model state `m`, stays so through `add` and `post`, and its result on
`of m` agrees with the model's, then one call simulates one call of the model closure `r`. -/
theorem step_of_parts (m : τ) (rm : Option α) (v : α) :
    (step (of m) rm v).1 = of (r.step m (rm.map id) (id v)).1 ∧
    A (step (of m) rm v).2 (r.step m (rm.map id) (id v)).2 :=
  hstep_of_parts id step pre post add emit r (fun g m => g = of m) A hs hp (fun _ m v h => h ▸ hadd m v)
    (fun _ m x h => h ▸ hpost m x) hpost0 (fun _ m v h => h ▸ hemit m v) (of m) m rm v rfl

theorem run_of_parts (m : τ) (cs : List (Option α × α)) :
    List.Forall₂ A (genRun step (of m) cs) (r.run m cs) := by
  have := run_sim id step r (fun g m => g = of m) A
    (fun _ m rm v h => h ▸ step_of_parts r of hs hp hadd hpost hpost0 hemit m rm v) cs _ m rfl
  rwa [mapCalls_id] at this

end Parts

/-- every entry point of binary.rs / reg.rs but `ts_vcov` computes `min_periods` without a `.max(k)` -/
theorem effMp_zero (mp : Option Nat) (w : Nat) : min (mp.getD (w / 2)) w = effMp mp w 0 :=
  (Nat.max_zero _).symm

/-- The usual shape of a result: NaN below `min_periods`, else a closed form whose model token is
`degen` wherever the totalised `Rat` arithmetic of the generated code could differ from it. -/
theorem agree_mask (sqrt : Rat → Rat) {n mp : Nat} {d : Prop} [Decidable d] {q q' : Rat} (h : ¬ d → q = q') :
    Agree sqrt (if decide (n ≥ mp) then some q else none)
      (if n ≥ mp then (if d then .degen else .val q') else .null) := by
  by_cases hm : n ≥ mp
  · by_cases hd : d
    · simp only [hm, hd, decide_true, if_true]; trivial
    · simp only [hm, hd, decide_true, if_true, if_false, h hd]; rfl
  · simp only [hm, decide_false, if_false, Bool.false_eq_true]; rfl

/-- the sums `ts_vcov` keeps -/
def of_vcov (m : Cross) : Gen.ts_vcov.St := ⟨m.sa, m.sb, m.sab, m.n⟩
theorem ts_vcov_emit (sqrt : Rat → Rat) (w mp : Nat) (m : Cross) (v : Pair) :
    Agree sqrt (Gen.ts_vcov.emit sqrt w mp (of_vcov m) v) ((crossRoll (emitCov mp)).emit m) :=
  agree_mask sqrt fun hd => by
    have hpos : 0 < m.n := Nat.pos_of_ne_zero fun h0 => hd (Or.inl (by rw [h0]; rfl))
    show _ / (((m.n - 1 : Nat)) : Rat) = _
    rw [Nat.cast_pred hpos]; rfl
theorem ts_vcov_minPeriods (w : Nat) (mp : Option Nat) : Gen.ts_vcov.minPeriods w mp = effMp mp w 2 :=
  rfl
/-- the closure regenerated from the source of `ts_vcov`, driven over the callbacks of either driver
shape on two equal-length series, yields the sample covariance of the pairwise-complete window at every position -/
theorem ts_vcov_exact (sqrt : Rat → Rat) (sh : Shape) (xs ys : List (Option Rat)) (w : Nat) (mp : Option Nat)
    (hw : 1 ≤ w) (hlen : ys.length = xs.length) :
    List.Forall₂ (Agree sqrt)
      (genRun (Gen.ts_vcov.step sqrt w (Gen.ts_vcov.minPeriods w mp)) (Gen.ts_vcov.init w) (apply2Calls sh xs ys w))
      (rolling2 (cov (effMp mp w 2)) xs ys w) := by
  rw [ts_vcov_minPeriods, ← C04.vcov_exact sh xs ys w mp hw hlen]
  exact run_of_parts (crossRoll (emitCov _)) of_vcov (Gen.ts_vcov.step_eq sqrt w _) (Gen.ts_vcov.pre_eq sqrt w _)
    (fun _ v => by rcases v with ⟨_ | a, _ | b⟩ <;> rfl) (fun _ v => by rcases v with ⟨_ | a, _ | b⟩ <;> rfl) (fun _ => rfl)
    (ts_vcov_emit sqrt w _) Cross.zero _

def of_vcorr (m : Cross) : Gen.ts_vcorr.St := ⟨m.sa, m.saa, m.sb, m.sbb, m.sab, m.n⟩
def R_ts_vcorr (g : Gen.ts_vcorr.St) (m : Cross) : Prop :=
  g.sum_a = m.sa ∧ g.sum2_a = m.saa ∧ g.sum_b = m.sb ∧ g.sum2_b = m.sbb ∧ g.sum_ab = m.sab ∧ g.n = m.n
theorem ts_vcorr_emit (sqrt : Rat → Rat) (w mp : Nat) (g : Gen.ts_vcorr.St) (m : Cross) (v : Pair) (h : R_ts_vcorr g m) :
    AgreeW (Gen.ts_vcorr.emit sqrt w mp g v) ((crossRoll (emitCorr mp)).emit m) := by
  rcases g with ⟨_, _, _, _, _, _⟩
  obtain ⟨rfl, rfl, rfl, rfl, rfl, rfl⟩ := h
  simp only [Gen.ts_vcorr.emit, crossRoll, emitCorr, eps_eq, sq, decide_eq_true_eq, ge_iff_le, gt_iff_lt, Bool.and_eq_true]
  split_ifs <;> first | rfl | trivial
theorem ts_vcorr_minPeriods (w : Nat) (mp : Option Nat) : Gen.ts_vcorr.minPeriods w mp = effMp mp w 0 :=
  effMp_zero mp w
/-- as `ts_vcov_exact`: the Pearson correlation (mask and branch structure; see `AgreeW`) -/
theorem ts_vcorr_exact (sqrt : Rat → Rat) (sh : Shape) (xs ys : List (Option Rat)) (w : Nat) (mp : Option Nat)
    (hw : 1 ≤ w) (hlen : ys.length = xs.length) :
    List.Forall₂ AgreeW
      (genRun (Gen.ts_vcorr.step sqrt w (Gen.ts_vcorr.minPeriods w mp)) (Gen.ts_vcorr.init w) (apply2Calls sh xs ys w))
      (rolling2 (corr (effMp mp w 0)) xs ys w) := by
  rw [ts_vcorr_minPeriods, ← C04.vcorr_exact sh xs ys w mp hw hlen]
  exact run_of_parts (crossRoll (emitCorr _)) of_vcorr (Gen.ts_vcorr.step_eq sqrt w _) (Gen.ts_vcorr.pre_eq sqrt w _)
    (fun _ v => by rcases v with ⟨_ | a, _ | b⟩ <;> rfl) (fun _ v => by rcases v with ⟨_ | a, _ | b⟩ <;> rfl) (fun _ => rfl)
    (fun m v => ts_vcorr_emit sqrt w _ _ m v ⟨rfl, rfl, rfl, rfl, rfl, rfl⟩) Cross.zero _

def of_vregx_alpha (m : Cross) : Gen.ts_vregx_alpha.St := ⟨m.sa, m.sb, m.sbb, m.sab, m.n⟩
theorem ts_vregx_alpha_emit (sqrt : Rat → Rat) (w mp : Nat) (m : Cross) (v : Pair) :
    Agree sqrt (Gen.ts_vregx_alpha.emit sqrt w mp (of_vregx_alpha m) v) ((crossRoll (emitAlpha mp)).emit m) :=
  agree_mask sqrt fun _ => by simp only [of_vregx_alpha, Cross.alpha, Cross.beta, Cross.den, sq]
theorem ts_vregx_alpha_minPeriods (w : Nat) (mp : Option Nat) : Gen.ts_vregx_alpha.minPeriods w mp = effMp mp w 0 :=
  effMp_zero mp w
/-- as `ts_vcov_exact`: the least-squares intercept -/
theorem ts_vregx_alpha_exact (sqrt : Rat → Rat) (sh : Shape) (xs ys : List (Option Rat)) (w : Nat) (mp : Option Nat)
    (hw : 1 ≤ w) (hlen : ys.length = xs.length) :
    List.Forall₂ (Agree sqrt)
      (genRun (Gen.ts_vregx_alpha.step sqrt w (Gen.ts_vregx_alpha.minPeriods w mp)) (Gen.ts_vregx_alpha.init w) (apply2Calls sh xs ys w))
      (rolling2 (regxAlpha (effMp mp w 0)) xs ys w) := by
  rw [ts_vregx_alpha_minPeriods, ← C04.vregx_alpha_exact sh xs ys w mp hw hlen]
  exact run_of_parts (crossRoll (emitAlpha _)) of_vregx_alpha (Gen.ts_vregx_alpha.step_eq sqrt w _) (Gen.ts_vregx_alpha.pre_eq sqrt w _)
    (fun _ v => by rcases v with ⟨_ | a, _ | b⟩ <;> rfl) (fun _ v => by rcases v with ⟨_ | a, _ | b⟩ <;> rfl) (fun _ => rfl)
    (ts_vregx_alpha_emit sqrt w _) Cross.zero _

def of_vregx_beta (m : Cross) : Gen.ts_vregx_beta.St := ⟨m.sa, m.sb, m.sbb, m.sab, m.n⟩
theorem ts_vregx_beta_emit (sqrt : Rat → Rat) (w mp : Nat) (m : Cross) (v : Pair) :
    Agree sqrt (Gen.ts_vregx_beta.emit sqrt w mp (of_vregx_beta m) v) ((crossRoll (emitBeta mp)).emit m) :=
  agree_mask sqrt fun _ => by simp only [of_vregx_beta, Cross.beta, Cross.den, sq]
theorem ts_vregx_beta_minPeriods (w : Nat) (mp : Option Nat) : Gen.ts_vregx_beta.minPeriods w mp = effMp mp w 0 :=
  effMp_zero mp w
/-- as `ts_vcov_exact`: the least-squares slope -/
theorem ts_vregx_beta_exact (sqrt : Rat → Rat) (sh : Shape) (xs ys : List (Option Rat)) (w : Nat) (mp : Option Nat)
    (hw : 1 ≤ w) (hlen : ys.length = xs.length) :
    List.Forall₂ (Agree sqrt)
      (genRun (Gen.ts_vregx_beta.step sqrt w (Gen.ts_vregx_beta.minPeriods w mp)) (Gen.ts_vregx_beta.init w) (apply2Calls sh xs ys w))
      (rolling2 (regxBeta (effMp mp w 0)) xs ys w) := by
  rw [ts_vregx_beta_minPeriods, ← C04.vregx_beta_exact sh xs ys w mp hw hlen]
  exact run_of_parts (crossRoll (emitBeta _)) of_vregx_beta (Gen.ts_vregx_beta.step_eq sqrt w _) (Gen.ts_vregx_beta.pre_eq sqrt w _)
    (fun _ v => by rcases v with ⟨_ | a, _ | b⟩ <;> rfl) (fun _ v => by rcases v with ⟨_ | a, _ | b⟩ <;> rfl) (fun _ => rfl)
    (ts_vregx_beta_emit sqrt w _) Cross.zero _

def of_vregx_all (m : Cross) : Gen.ts_vregx_all.St := ⟨m.sa, m.sb, m.sbb, m.sab, m.saa, m.n⟩
theorem ts_vregx_all_emit (sqrt : Rat → Rat) (w mp : Nat) (m : Cross) (v : Pair) :
    Agree3 sqrt (Gen.ts_vregx_all.emit sqrt w mp (of_vregx_all m) v) ((crossRoll (emitAll mp)).emit m) := by
  by_cases hm : m.n ≥ mp <;> by_cases hd : m.degenerate <;>
    simp only [Gen.ts_vregx_all.emit, of_vregx_all, crossRoll, emitAll, emitAlpha, emitBeta, emitSse, Cross.sse,
      Cross.alpha, Cross.beta, Cross.den, sq, hm, hd, decide_true, decide_false, if_true, if_false,
      Bool.false_eq_true, Agree3, Agree, and_self]
def R_ts_vregx_all (g : Gen.ts_vregx_all.St) (m : Cross) : Prop :=
  g.sum_a = m.sa ∧ g.sum_b = m.sb ∧ g.sum_b2 = m.sbb ∧ g.sum_ab = m.sab ∧ g.sum_a2 = m.saa ∧ g.n = m.n
theorem ts_vregx_all_step (sqrt : Rat → Rat) (w mp : Nat) (g : Gen.ts_vregx_all.St) (m : Cross) (rm : Option (Pair)) (v : Pair) (h : R_ts_vregx_all g m) :
    R_ts_vregx_all (Gen.ts_vregx_all.step sqrt w mp g rm v).1 ((crossRoll (emitAll mp)).step m (rm.map id) (id v)).1 ∧
    (Agree3 sqrt) (Gen.ts_vregx_all.step sqrt w mp g rm v).2 ((crossRoll (emitAll mp)).step m (rm.map id) (id v)).2 := by
  have hg : g = of_vregx_all m := by
    rcases g with ⟨_, _, _, _, _, _⟩
    obtain ⟨rfl, rfl, rfl, rfl, rfl, rfl⟩ := h
    rfl
  obtain ⟨h1, h2⟩ := step_of_parts (crossRoll (emitAll mp)) of_vregx_all (Gen.ts_vregx_all.step_eq sqrt w mp)
    (Gen.ts_vregx_all.pre_eq sqrt w mp) (fun _ v => by rcases v with ⟨_ | a, _ | b⟩ <;> rfl) (fun _ v => by rcases v with ⟨_ | a, _ | b⟩ <;> rfl)
    (fun _ => rfl) (ts_vregx_all_emit sqrt w mp) m rm v
  rw [hg]
  exact ⟨h1 ▸ ⟨rfl, rfl, rfl, rfl, rfl, rfl⟩, h2⟩
theorem ts_vregx_all_minPeriods (w : Nat) (mp : Option Nat) : Gen.ts_vregx_all.minPeriods w mp = effMp mp w 0 :=
  effMp_zero mp w
/-- as `ts_vcov_exact`: `(α, β, SSE)` of the least-squares line -/
theorem ts_vregx_all_exact (sqrt : Rat → Rat) (sh : Shape) (xs ys : List (Option Rat)) (w : Nat) (mp : Option Nat)
    (hw : 1 ≤ w) (hlen : ys.length = xs.length) :
    List.Forall₂ (Agree3 sqrt)
      (genRun (Gen.ts_vregx_all.step sqrt w (Gen.ts_vregx_all.minPeriods w mp)) (Gen.ts_vregx_all.init w) (apply2Calls sh xs ys w))
      ((List.range xs.length).map fun i =>
        let l := complete (window (xs.zip ys) i w)
        (regxAlpha (effMp mp w 0) l, regxBeta (effMp mp w 0) l, regxSse (effMp mp w 0) l)) := by
  rw [ts_vregx_all_minPeriods, ← C04.vregx_all_exact sh xs ys w mp hw hlen]
  exact run_of_parts (crossRoll (emitAll _)) of_vregx_all (Gen.ts_vregx_all.step_eq sqrt w _) (Gen.ts_vregx_all.pre_eq sqrt w _)
    (fun _ v => by rcases v with ⟨_ | a, _ | b⟩ <;> rfl) (fun _ v => by rcases v with ⟨_ | a, _ | b⟩ <;> rfl) (fun _ => rfl)
    (ts_vregx_all_emit sqrt w _) Cross.zero _

def of_vreg (m : Trend) : Gen.ts_vreg.St := ⟨m.sum, m.sxt, m.n⟩
def R_ts_vreg (g : Gen.ts_vreg.St) (m : Trend) : Prop :=
  g.sum = m.sum ∧ g.sum_xt = m.sxt ∧ g.n = m.n
theorem ts_vreg_add (w mp : Nat) (g : Gen.ts_vreg.St) (m : Trend) (v : Option Rat) (h : R_ts_vreg g m) :
    R_ts_vreg (Gen.ts_vreg.add w g v) ((trendRoll (Fn1.emit .reg mp)).add m v) := by
  rcases g with ⟨_, _, _⟩
  obtain ⟨rfl, rfl, rfl⟩ := h
  cases v <;> exact ⟨rfl, rfl, rfl⟩
theorem ts_vreg_emit (sqrt : Rat → Rat) (w mp : Nat) (m : Trend) (v : Option Rat) :
    Agree sqrt (Gen.ts_vreg.emit sqrt w mp (of_vreg m) v) ((trendRoll (Fn1.emit .reg mp)).emit m) :=
  agree_mask sqrt fun _ => by
    simp only [of_vreg, Trend.fitted, Trend.intercept, Trend.slope, Trend.divisor, Trend.nSumTT, Trend.sumT, sq, pow_one, Nat.mul_comm m.n 2]
theorem ts_vreg_minPeriods (w : Nat) (mp : Option Nat) : Gen.ts_vreg.minPeriods w mp = effMp mp w 0 :=
  effMp_zero mp w
/-- the closure regenerated from the source of `ts_vreg`, driven over the callbacks of either driver
shape, yields the fitted value `α + β n` of the least-squares line on `t = 1..n` (valid values of the window) at every position -/
theorem ts_vreg_exact (sqrt : Rat → Rat) (sh : Shape) (xs : List (Option Rat)) (w : Nat) (mp : Option Nat) (hw : 1 ≤ w) :
    List.Forall₂ (Agree sqrt)
      (genRun (Gen.ts_vreg.step sqrt w (Gen.ts_vreg.minPeriods w mp)) (Gen.ts_vreg.init w) (applyCalls sh xs w))
      (rolling1 (trendFitted (effMp mp w 0)) xs w) := by
  rw [ts_vreg_minPeriods, ← C04.vreg_exact sh xs w mp hw]
  exact run_of_parts (trendRoll (Fn1.emit .reg _)) of_vreg (Gen.ts_vreg.step_eq sqrt w _) (Gen.ts_vreg.pre_eq sqrt w _)
    (fun _ v => by cases v <;> rfl) (fun _ v => by cases v <;> rfl) (fun _ => rfl)
    (ts_vreg_emit sqrt w _) Trend.zero _

def of_vtsf (m : Trend) : Gen.ts_vtsf.St := ⟨m.sum, m.sxt, m.n⟩
theorem ts_vtsf_emit (sqrt : Rat → Rat) (w mp : Nat) (m : Trend) (v : Option Rat) :
    Agree sqrt (Gen.ts_vtsf.emit sqrt w mp (of_vtsf m) v) ((trendRoll (Fn1.emit .tsf mp)).emit m) :=
  agree_mask sqrt fun _ => by
    simp only [of_vtsf, Trend.forecast, Trend.intercept, Trend.slope, Trend.divisor, Trend.nSumTT, Trend.sumT, sq, pow_one, Nat.mul_comm m.n 2]
theorem ts_vtsf_minPeriods (w : Nat) (mp : Option Nat) : Gen.ts_vtsf.minPeriods w mp = effMp mp w 0 :=
  effMp_zero mp w
/-- as `ts_vreg_exact`: the one-step-ahead forecast `α + β (n+1)` -/
theorem ts_vtsf_exact (sqrt : Rat → Rat) (sh : Shape) (xs : List (Option Rat)) (w : Nat) (mp : Option Nat) (hw : 1 ≤ w) :
    List.Forall₂ (Agree sqrt)
      (genRun (Gen.ts_vtsf.step sqrt w (Gen.ts_vtsf.minPeriods w mp)) (Gen.ts_vtsf.init w) (applyCalls sh xs w))
      (rolling1 (trendForecast (effMp mp w 0)) xs w) := by
  rw [ts_vtsf_minPeriods, ← C04.vtsf_exact sh xs w mp hw]
  exact run_of_parts (trendRoll (Fn1.emit .tsf _)) of_vtsf (Gen.ts_vtsf.step_eq sqrt w _) (Gen.ts_vtsf.pre_eq sqrt w _)
    (fun _ v => by cases v <;> rfl) (fun _ v => by cases v <;> rfl) (fun _ => rfl)
    (ts_vtsf_emit sqrt w _) Trend.zero _

def of_vreg_slope (m : Trend) : Gen.ts_vreg_slope.St := ⟨m.sum, m.sxt, m.n⟩
theorem ts_vreg_slope_emit (sqrt : Rat → Rat) (w mp : Nat) (m : Trend) (v : Option Rat) :
    Agree sqrt (Gen.ts_vreg_slope.emit sqrt w mp (of_vreg_slope m) v) ((trendRoll (Fn1.emit .slope mp)).emit m) :=
  agree_mask sqrt fun _ => by
    simp only [of_vreg_slope, Trend.slope, Trend.divisor, Trend.nSumTT, Trend.sumT, sq, pow_one, Nat.mul_comm m.n 2]
theorem ts_vreg_slope_minPeriods (w : Nat) (mp : Option Nat) : Gen.ts_vreg_slope.minPeriods w mp = effMp mp w 0 :=
  effMp_zero mp w
/-- as `ts_vreg_exact`: the slope -/
theorem ts_vreg_slope_exact (sqrt : Rat → Rat) (sh : Shape) (xs : List (Option Rat)) (w : Nat) (mp : Option Nat) (hw : 1 ≤ w) :
    List.Forall₂ (Agree sqrt)
      (genRun (Gen.ts_vreg_slope.step sqrt w (Gen.ts_vreg_slope.minPeriods w mp)) (Gen.ts_vreg_slope.init w) (applyCalls sh xs w))
      (rolling1 (trendSlope (effMp mp w 0)) xs w) := by
  rw [ts_vreg_slope_minPeriods, ← C04.vreg_slope_exact sh xs w mp hw]
  exact run_of_parts (trendRoll (Fn1.emit .slope _)) of_vreg_slope (Gen.ts_vreg_slope.step_eq sqrt w _) (Gen.ts_vreg_slope.pre_eq sqrt w _)
    (fun _ v => by cases v <;> rfl) (fun _ v => by cases v <;> rfl) (fun _ => rfl)
    (ts_vreg_slope_emit sqrt w _) Trend.zero _

def of_vreg_intercept (m : Trend) : Gen.ts_vreg_intercept.St := ⟨m.sum, m.sxt, m.n⟩
theorem ts_vreg_intercept_emit (sqrt : Rat → Rat) (w mp : Nat) (m : Trend) (v : Option Rat) :
    Agree sqrt (Gen.ts_vreg_intercept.emit sqrt w mp (of_vreg_intercept m) v) ((trendRoll (Fn1.emit .intercept mp)).emit m) :=
  agree_mask sqrt fun _ => by
    simp only [of_vreg_intercept, Trend.intercept, Trend.slope, Trend.divisor, Trend.nSumTT, Trend.sumT, sq, pow_one, Nat.mul_comm m.n 2]
theorem ts_vreg_intercept_minPeriods (w : Nat) (mp : Option Nat) : Gen.ts_vreg_intercept.minPeriods w mp = effMp mp w 0 :=
  effMp_zero mp w
/-- as `ts_vreg_exact`: the intercept -/
theorem ts_vreg_intercept_exact (sqrt : Rat → Rat) (sh : Shape) (xs : List (Option Rat)) (w : Nat) (mp : Option Nat) (hw : 1 ≤ w) :
    List.Forall₂ (Agree sqrt)
      (genRun (Gen.ts_vreg_intercept.step sqrt w (Gen.ts_vreg_intercept.minPeriods w mp)) (Gen.ts_vreg_intercept.init w) (applyCalls sh xs w))
      (rolling1 (trendIntercept (effMp mp w 0)) xs w) := by
  rw [ts_vreg_intercept_minPeriods, ← C04.vreg_intercept_exact sh xs w mp hw]
  exact run_of_parts (trendRoll (Fn1.emit .intercept _)) of_vreg_intercept (Gen.ts_vreg_intercept.step_eq sqrt w _) (Gen.ts_vreg_intercept.pre_eq sqrt w _)
    (fun _ v => by cases v <;> rfl) (fun _ v => by cases v <;> rfl) (fun _ => rfl)
    (ts_vreg_intercept_emit sqrt w _) Trend.zero _

def of_vreg_resid_mean (m : Trend) : Gen.ts_vreg_resid_mean.St := ⟨m.sum, m.sxx, m.sxt, m.n⟩
theorem ts_vreg_resid_mean_emit (sqrt : Rat → Rat) (w mp : Nat) (m : Trend) (v : Option Rat) :
    Agree sqrt (Gen.ts_vreg_resid_mean.emit sqrt w mp (of_vreg_resid_mean m) v) ((trendRoll (Fn1.emit .residMean mp)).emit m) :=
  agree_mask sqrt fun _ => by
    simp only [of_vreg_resid_mean, Trend.msr, Trend.alpha', Trend.beta', Trend.divisor', Trend.sumTT, Trend.sumT, sq, pow_one, Nat.mul_comm m.n 2]
theorem ts_vreg_resid_mean_minPeriods (w : Nat) (mp : Option Nat) : Gen.ts_vreg_resid_mean.minPeriods w mp = effMp mp w 0 :=
  effMp_zero mp w
/-- as `ts_vreg_exact`: the mean squared residual of the line -/
theorem ts_vreg_resid_mean_exact (sqrt : Rat → Rat) (sh : Shape) (xs : List (Option Rat)) (w : Nat) (mp : Option Nat) (hw : 1 ≤ w) :
    List.Forall₂ (Agree sqrt)
      (genRun (Gen.ts_vreg_resid_mean.step sqrt w (Gen.ts_vreg_resid_mean.minPeriods w mp)) (Gen.ts_vreg_resid_mean.init w) (applyCalls sh xs w))
      (rolling1 (trendMsr (effMp mp w 0)) xs w) := by
  rw [ts_vreg_resid_mean_minPeriods, ← C04.vreg_resid_mean_exact sh xs w mp hw]
  exact run_of_parts (trendRoll (Fn1.emit .residMean _)) of_vreg_resid_mean (Gen.ts_vreg_resid_mean.step_eq sqrt w _) (Gen.ts_vreg_resid_mean.pre_eq sqrt w _)
    (fun _ v => by cases v <;> rfl) (fun _ v => by cases v <;> rfl) (fun _ => rfl)
    (ts_vreg_resid_mean_emit sqrt w _) Trend.zero _

/-- all 10 value-driver entry points of binary.rs / reg.rs were found and translated (a closure outside
the translator's subset is emitted without `step`, which breaks the theorems above; one that
disappears breaks this) -/
theorem closures_present :
    ∀ n ∈ ["ts_vcov", "ts_vcorr", "ts_vregx_alpha", "ts_vregx_beta", "ts_vregx_all", "ts_vreg", "ts_vtsf", "ts_vreg_slope", "ts_vreg_intercept", "ts_vreg_resid_mean"], n ∈ Gen.closures := by
  simp only [List.forall_mem_cons, List.not_mem_nil, false_imp_iff, implies_true, and_true]
  -- each membership by walking the list (`List.Mem.head` / `tail`): no two strings are compared
  repeat constructor

/-- **from source, end to end**: regenerated two-series driver (both shapes) + regenerated closure -/
theorem ts_vcov_from_source (sqrt : Rat → Rat) (xs ys : List (Option Rat)) (w : Nat) (mp : Option Nat)
    (hw : 1 ≤ w) (hlen : ys.length = xs.length) :
    C02Gen.E2E2 (fun cs =>
    List.Forall₂ (Agree sqrt)
      (genRun (Gen.ts_vcov.step sqrt w (Gen.ts_vcov.minPeriods w mp)) (Gen.ts_vcov.init w) cs)
      (rolling2 (cov (effMp mp w 2)) xs ys w)) xs ys w :=
  C02Gen.e2e_apply2 _ xs ys w hw (by omega) (ts_vcov_exact sqrt .to xs ys w mp hw hlen) (ts_vcov_exact sqrt .iter xs ys w mp hw hlen)

theorem ts_vcorr_from_source (sqrt : Rat → Rat) (xs ys : List (Option Rat)) (w : Nat) (mp : Option Nat)
    (hw : 1 ≤ w) (hlen : ys.length = xs.length) :
    C02Gen.E2E2 (fun cs =>
    List.Forall₂ AgreeW
      (genRun (Gen.ts_vcorr.step sqrt w (Gen.ts_vcorr.minPeriods w mp)) (Gen.ts_vcorr.init w) cs)
      (rolling2 (corr (effMp mp w 0)) xs ys w)) xs ys w :=
  C02Gen.e2e_apply2 _ xs ys w hw (by omega) (ts_vcorr_exact sqrt .to xs ys w mp hw hlen) (ts_vcorr_exact sqrt .iter xs ys w mp hw hlen)

theorem ts_vregx_alpha_from_source (sqrt : Rat → Rat) (xs ys : List (Option Rat)) (w : Nat) (mp : Option Nat)
    (hw : 1 ≤ w) (hlen : ys.length = xs.length) :
    C02Gen.E2E2 (fun cs =>
    List.Forall₂ (Agree sqrt)
      (genRun (Gen.ts_vregx_alpha.step sqrt w (Gen.ts_vregx_alpha.minPeriods w mp)) (Gen.ts_vregx_alpha.init w) cs)
      (rolling2 (regxAlpha (effMp mp w 0)) xs ys w)) xs ys w :=
  C02Gen.e2e_apply2 _ xs ys w hw (by omega) (ts_vregx_alpha_exact sqrt .to xs ys w mp hw hlen) (ts_vregx_alpha_exact sqrt .iter xs ys w mp hw hlen)

theorem ts_vregx_beta_from_source (sqrt : Rat → Rat) (xs ys : List (Option Rat)) (w : Nat) (mp : Option Nat)
    (hw : 1 ≤ w) (hlen : ys.length = xs.length) :
    C02Gen.E2E2 (fun cs =>
    List.Forall₂ (Agree sqrt)
      (genRun (Gen.ts_vregx_beta.step sqrt w (Gen.ts_vregx_beta.minPeriods w mp)) (Gen.ts_vregx_beta.init w) cs)
      (rolling2 (regxBeta (effMp mp w 0)) xs ys w)) xs ys w :=
  C02Gen.e2e_apply2 _ xs ys w hw (by omega) (ts_vregx_beta_exact sqrt .to xs ys w mp hw hlen) (ts_vregx_beta_exact sqrt .iter xs ys w mp hw hlen)

theorem ts_vregx_all_from_source (sqrt : Rat → Rat) (xs ys : List (Option Rat)) (w : Nat) (mp : Option Nat)
    (hw : 1 ≤ w) (hlen : ys.length = xs.length) :
    C02Gen.E2E2 (fun cs =>
    List.Forall₂ (Agree3 sqrt)
      (genRun (Gen.ts_vregx_all.step sqrt w (Gen.ts_vregx_all.minPeriods w mp)) (Gen.ts_vregx_all.init w) cs)
      ((List.range xs.length).map fun i =>
        let l := complete (window (xs.zip ys) i w)
        (regxAlpha (effMp mp w 0) l, regxBeta (effMp mp w 0) l, regxSse (effMp mp w 0) l))) xs ys w :=
  C02Gen.e2e_apply2 _ xs ys w hw (by omega) (ts_vregx_all_exact sqrt .to xs ys w mp hw hlen) (ts_vregx_all_exact sqrt .iter xs ys w mp hw hlen)

/-- **from source, end to end**: regenerated driver (both shapes) + regenerated closure -/
theorem ts_vreg_from_source (sqrt : Rat → Rat) (xs : List (Option Rat)) (w : Nat) (mp : Option Nat) (hw : 1 ≤ w) :
    C02Gen.E2E (fun cs =>
    List.Forall₂ (Agree sqrt)
      (genRun (Gen.ts_vreg.step sqrt w (Gen.ts_vreg.minPeriods w mp)) (Gen.ts_vreg.init w) cs)
      (rolling1 (trendFitted (effMp mp w 0)) xs w)) xs w :=
  C02Gen.e2e_apply _ xs w hw (ts_vreg_exact sqrt .to xs w mp hw) (ts_vreg_exact sqrt .iter xs w mp hw)

theorem ts_vtsf_from_source (sqrt : Rat → Rat) (xs : List (Option Rat)) (w : Nat) (mp : Option Nat) (hw : 1 ≤ w) :
    C02Gen.E2E (fun cs =>
    List.Forall₂ (Agree sqrt)
      (genRun (Gen.ts_vtsf.step sqrt w (Gen.ts_vtsf.minPeriods w mp)) (Gen.ts_vtsf.init w) cs)
      (rolling1 (trendForecast (effMp mp w 0)) xs w)) xs w :=
  C02Gen.e2e_apply _ xs w hw (ts_vtsf_exact sqrt .to xs w mp hw) (ts_vtsf_exact sqrt .iter xs w mp hw)

theorem ts_vreg_slope_from_source (sqrt : Rat → Rat) (xs : List (Option Rat)) (w : Nat) (mp : Option Nat) (hw : 1 ≤ w) :
    C02Gen.E2E (fun cs =>
    List.Forall₂ (Agree sqrt)
      (genRun (Gen.ts_vreg_slope.step sqrt w (Gen.ts_vreg_slope.minPeriods w mp)) (Gen.ts_vreg_slope.init w) cs)
      (rolling1 (trendSlope (effMp mp w 0)) xs w)) xs w :=
  C02Gen.e2e_apply _ xs w hw (ts_vreg_slope_exact sqrt .to xs w mp hw) (ts_vreg_slope_exact sqrt .iter xs w mp hw)

theorem ts_vreg_intercept_from_source (sqrt : Rat → Rat) (xs : List (Option Rat)) (w : Nat) (mp : Option Nat) (hw : 1 ≤ w) :
    C02Gen.E2E (fun cs =>
    List.Forall₂ (Agree sqrt)
      (genRun (Gen.ts_vreg_intercept.step sqrt w (Gen.ts_vreg_intercept.minPeriods w mp)) (Gen.ts_vreg_intercept.init w) cs)
      (rolling1 (trendIntercept (effMp mp w 0)) xs w)) xs w :=
  C02Gen.e2e_apply _ xs w hw (ts_vreg_intercept_exact sqrt .to xs w mp hw) (ts_vreg_intercept_exact sqrt .iter xs w mp hw)

theorem ts_vreg_resid_mean_from_source (sqrt : Rat → Rat) (xs : List (Option Rat)) (w : Nat) (mp : Option Nat) (hw : 1 ≤ w) :
    C02Gen.E2E (fun cs =>
    List.Forall₂ (Agree sqrt)
      (genRun (Gen.ts_vreg_resid_mean.step sqrt w (Gen.ts_vreg_resid_mean.minPeriods w mp)) (Gen.ts_vreg_resid_mean.init w) cs)
      (rolling1 (trendMsr (effMp mp w 0)) xs w)) xs w :=
  C02Gen.e2e_apply _ xs w hw (ts_vreg_resid_mean_exact sqrt .to xs w mp hw) (ts_vreg_resid_mean_exact sqrt .iter xs w mp hw)

/-! ## the residual closures over `rolling2_apply_idx` (`ts_vregx_resid_mean/std/skew`)

The three closures keep the same five running sums, compute the regression coefficients from them,
re-read the window through `uget`, map it to residuals (NaN on incomplete pairs) and hand these to
`vmean` / `vstd(2)` / `vskew(3)` of agg.rs, regenerated in `GenAgg.lean`; the element to remove is
re-read at `start`.  `Sums.step` is that closure body with the aggregation a parameter, and its
agreement with the model's `idxRun … emitResid` is proved once; for each generated `step` it remains
to check that it is `Sums.step` (`*_sums`), which is where a change of the regenerated code shows. -/

theorem uget_pair (xs ys : List (Option Rat)) (k : Nat) : (Gen.uget xs k, Gen.uget ys k) = ugetPair xs ys k := by
  simp [Gen.uget, ugetPair, List.getD_eq_getElem?_getD]

/-- the state after one call of the model closure (`idxRun`: add, then remove the element at `start`) -/
def residNext (xs ys : List (Option Rat)) (m : Cross) (st : Option Nat) (v : Pair) : Cross :=
  match st with
  | some k => Cross.remove (Cross.add m v) (ugetPair xs ys k)
  | none => Cross.add m v

/-- one residual of the generated mapped range: `vy - alpha - beta * vx` on a complete pair, NaN otherwise -/
def residOf (alpha beta : Rat) : Pair → Option Rat
  | (some y, some x) => some (y - alpha - beta * x)
  | _ => none

/-- the running sums `(n, Σa, Σb, Σb², Σab)` the three residual closures keep: each generated `St`
has exactly these fields, and `Cross` has them beside `saa`, which no residual closure reads -/
abbrev Sums := Nat × Rat × Rat × Rat × Rat

namespace Sums
def of (m : Cross) : Sums := (m.n, m.sa, m.sb, m.sbb, m.sab)

theorem mk_eq_of {n : Nat} {a b c d : Rat} {m : Cross} :
    ((n, a, b, c, d) : Sums) = of m ↔ n = m.n ∧ a = m.sa ∧ b = m.sb ∧ c = m.sbb ∧ d = m.sab := by
  simp only [of, Prod.mk.injEq]

/-- `add` and `remove` take the two halves of a pair and have the two-discriminant `match` of the
generated code, so that a generated `step` unfolds to `Sums.step` without a case split. -/
def add (s : Sums) (va vb : Option Rat) : Sums :=
  match va, vb with
  | some a, some b => (s.1 + 1, s.2.1 + a, s.2.2.1 + b, s.2.2.2.1 + b * b, s.2.2.2.2 + a * b)
  | _, _ => s

def remove (s : Sums) (va vb : Option Rat) : Sums :=
  match va, vb with
  | some a, some b => (s.1 - 1, s.2.1 - a, s.2.2.1 - b, s.2.2.2.1 - b * b, s.2.2.2.2 - a * b)
  | _, _ => s

theorem of_add (m : Cross) (v : Pair) : (of m).add v.1 v.2 = of (m.add v) := by
  rcases v with ⟨_ | a, _ | b⟩ <;> rfl

theorem of_remove (m : Cross) (v : Pair) : (of m).remove v.1 v.2 = of (m.remove v) := by
  rcases v with ⟨_ | a, _ | b⟩ <;> rfl

/-- `beta` and `alpha` as the closures compute them -/
def beta (s : Sums) : Rat := ((s.1 : Rat) * s.2.2.2.2 - s.2.1 * s.2.2.1) / ((s.1 : Rat) * s.2.2.2.1 - s.2.2.1 ^ 2)
def alpha (s : Sums) : Rat := (s.2.1 - s.beta * s.2.2.1) / (s.1 : Rat)

theorem of_beta (m : Cross) : (of m).beta = m.beta := by
  simp only [beta, of, Cross.beta, Cross.den, pow_two]

theorem of_alpha (m : Cross) : (of m).alpha = m.alpha := by
  unfold alpha; rw [of_beta]; rfl

/-- `residOf` on the two halves of a pair -/
def resid (alpha beta : Rat) (vy vx : Option Rat) : Option Rat :=
  match vy, vx with
  | some vy, some vx => some (vy - alpha - beta * vx)
  | _, _ => none

theorem resid_eq (alpha beta : Rat) (p : Pair) : resid alpha beta p.1 p.2 = residOf alpha beta p := by
  rcases p with ⟨_ | a, _ | b⟩ <;> rfl

/-- One call of a residual closure, on the sums alone: add, aggregate the residuals of
`start.unwrap_or(0) ..= end` if `min_periods` is met, remove the element re-read at `start`.
The three generated `step` functions are this function up to the names of the fields and the
aggregation `agg` of agg.rs they call (`*_sums` below). -/
def step (agg : List (Option Rat) → Option Rat) (mp : Nat) (xs ys : List (Option Rat)) (s : Sums)
    (st : Option Nat) (e : Nat) (v : Pair) : Sums × Option Rat :=
  let s := s.add v.1 v.2
  (match st with
    | some k => s.remove (Gen.uget xs k) (Gen.uget ys k)
    | none => s,
   if decide (s.1 ≥ mp) then
     agg ((List.range' (st.getD 0) (e + 1 - st.getD 0)).map fun j =>
       resid s.alpha s.beta (Gen.uget xs j) (Gen.uget ys j))
   else none)

theorem step_state (agg : List (Option Rat) → Option Rat) (mp : Nat) (xs ys : List (Option Rat)) (m : Cross)
    (st : Option Nat) (e : Nat) (v : Pair) :
    (step agg mp xs ys (of m) st e v).1 = of (residNext xs ys m st v) := by
  cases st with
  | none => exact of_add m v
  | some k =>
    show ((of m).add v.1 v.2).remove (Gen.uget xs k) (Gen.uget ys k) = of ((m.add v).remove (ugetPair xs ys k))
    rw [of_add, ← uget_pair, ← of_remove]

theorem step_mask (agg : List (Option Rat) → Option Rat) (mp : Nat) (xs ys : List (Option Rat)) (m : Cross)
    (st : Option Nat) (e : Nat) (v : Pair) (hlt : (Cross.add m v).n < mp) :
    (step agg mp xs ys (of m) st e v).2 = none := by
  simp only [step, of_add]
  exact if_neg fun h => Nat.not_le.mpr hlt (of_decide_eq_true h)

/-- the result of `step` against the model's `emitResid`, given that the aggregation `agg` agrees
with the model's `agg'` on every mapped range of residuals (`mean_emit_core` and its siblings) -/
theorem step_emit (A : Option Rat → Out → Prop) (hnull : A none .null) (hdegen : ∀ o, A o .degen)
    (agg : List (Option Rat) → Option Rat) (agg' : List Rat → Out) (xs ys : List (Option Rat))
    (hagg : ∀ alpha beta a n (F : Nat → Option Rat), (∀ j, F j = residOf alpha beta (ugetPair xs ys j)) →
      A (agg ((List.range' a n).map F)) (agg' (resids alpha beta ((List.range' a n).map (ugetPair xs ys)))))
    (mp : Nat) (m : Cross) (st : Option Nat) (e : Nat) (v : Pair) :
    A (step agg mp xs ys (of m) st e v).2 (emitResid agg' mp xs ys (Cross.add m v) st e) := by
  simp only [step, of_add, of_alpha, of_beta, emitResid, idxWindow, decide_eq_true_eq]
  change A (if (m.add v).n ≥ mp then _ else _) _
  split_ifs
  · exact hdegen _
  · exact hagg _ _ _ _ _ fun j => (resid_eq _ _ (_, _)).trans (congrArg _ (uget_pair xs ys j))
  · exact hnull
end Sums

/-- the valid (non-NaN) entries, as the aggregations of agg.rs see them -/
def valids : List (Option Rat) → List Rat
  | [] => []
  | none :: l => valids l
  | some v :: l => v :: valids l

theorem valids_eq : ∀ L : List (Option Rat), valids L = valid L
  | [] => rfl
  | none :: l => valids_eq l
  | some v :: l => congrArg (v :: ·) (valids_eq l)

theorem resids_valids (alpha beta : Rat) (q : List Pair) :
    resids alpha beta q = valids (q.map (residOf alpha beta)) := by
  rw [valids_eq, valid, List.filterMap_map]
  exact List.filterMap_congr fun p _ => by rcases p with ⟨_ | a, _ | b⟩ <;> rfl

theorem resids_range (xs ys : List (Option Rat)) (alpha beta : Rat) (a n : Nat)
    (F : Nat → Option Rat) (hF : ∀ j, F j = residOf alpha beta (ugetPair xs ys j)) :
    resids alpha beta ((List.range' a n).map (ugetPair xs ys)) = valids ((List.range' a n).map F) := by
  rw [resids_valids, List.map_map]
  exact congrArg valids (List.map_congr_left fun j _ => (hF j).symm)

theorem vmean_resid (sqrt : Rat → Rat) (L : List (Option Rat)) :
    Agree sqrt (GenAgg.vmean.run sqrt L) (aggMean (valids L)) := by
  have h := C11Gen.vmean_agree sqrt L
  rw [C11.vmean, C11.vfoldN_eq] at h
  rw [valids_eq, aggMean, msum]
  by_cases hl : (valid L).length ≥ 1
  · simpa only [hl, if_true, id_eq] using h
  · simp only [hl, if_false, Agree]

/-- the aggregate of the generated mapped range `(start.unwrap_or(0)..=end).map(|j| …)` -/
theorem mean_emit_core (sqrt : Rat → Rat) (xs ys : List (Option Rat)) (alpha beta : Rat) (a n : Nat)
    (F : Nat → Option Rat) (hF : ∀ j, F j = residOf alpha beta (ugetPair xs ys j)) :
    Agree sqrt (GenAgg.vmean.run sqrt ((List.range' a n).map F))
      (aggMean (resids alpha beta ((List.range' a n).map (ugetPair xs ys)))) := by
  rw [resids_range xs ys alpha beta a n F hF]
  exact vmean_resid sqrt _

theorem pows_valids_aux (l : List Rat) (s : C11.Pow) :
    l.foldl (fun s v => s.step (some v)) s =
      ⟨s.n + l.length, l.foldl (fun acc v => acc + id v) s.s1,
       l.foldl (fun acc v => acc + (fun v => v * v) v) s.s2,
       l.foldl (fun acc v => acc + (fun v => v * v * v) v) s.s3,
       l.foldl (fun acc v => acc + (fun v => (v * v) * (v * v)) v) s.s4⟩ := by
  induction l generalizing s with
  | nil => rfl
  | cons v l ih =>
    rw [List.foldl_cons, ih]
    simp only [C11.Pow.step, List.length_cons, List.foldl_cons, id_eq]
    congr 1; omega

theorem pows_valids (L : List (Option Rat)) :
    (C11.pows L).n = (valids L).length ∧ (C11.pows L).s1 = msum id (valids L) ∧
    (C11.pows L).s2 = msum (fun v => v * v) (valids L) ∧ (C11.pows L).s3 = msum (fun v => v * v * v) (valids L) := by
  unfold C11.pows msum
  rw [valids_eq, C11.foldl_valid C11.Pow.step (fun _ => rfl), pows_valids_aux]
  simp [C11.Pow.zero]

/-- `sqrt 0 = 0` is needed where the variance is floored to zero before the root is taken -/
theorem vstd_resid (sqrt : Rat → Rat) (hs0 : sqrt 0 = 0) (L : List (Option Rat)) (mp : Nat) (hmp : 2 ≤ mp) :
    Agree sqrt (GenAgg.vstd.run sqrt L mp) (aggStd mp (valids L)) := by
  have h := C11Gen.vstd_agree sqrt L mp
  obtain ⟨e0, e1, e2, _⟩ := pows_valids L
  unfold C11.vstd C11.vvar C11.vmeanVar at h
  unfold aggStd
  simp only [C11.Pow.pvar, e0, e1, e2] at h
  simp only []
  have eps : C11.EPS = EPS := rfl
  rw [eps] at h
  by_cases h1 : (valids L).length < mp
  · simp only [h1, true_or, if_true]; trivial
  · have h2 : ¬ (valids L).length < 2 := by omega
    have h3 : ¬ (valids L).length = 0 := by omega
    have h4 : (valids L).length ≥ 2 := by omega
    simp only [h1, h2, h3, h4, or_self, if_false, if_true] at h ⊢
    split_ifs at h ⊢ with h5
    · simp only [C11.sqrtOut, Agree] at h ⊢
      rw [h, hs0]; simp
    · simp only [C11.sqrtOut] at h
      rw [Nat.cast_pred (by omega)] at h
      exact h

/-- in the weak form: the NaN mask, the floored-variance zero and the branch structure (the closed
form is rewritten under the root sign in the model) -/
theorem vskew_resid (sqrt : Rat → Rat) (L : List (Option Rat)) (mp : Nat) :
    AgreeW (GenAgg.vskew.run sqrt L mp) (aggSkew mp (valids L)) := by
  obtain ⟨e0, e1, e2, e3⟩ := pows_valids L
  unfold GenAgg.vskew.run
  simp only []
  rw [C11Gen.vapplyN_pow3 _ (fun _ _ _ _ => rfl) L]
  unfold aggSkew
  simp only [← e0, ← e1, ← e2, ← e3, C11Gen.eps_eq, decide_eq_true_eq]
  have eps : C11.EPS = EPS := rfl
  rw [eps]
  generalize C11.pows L = s
  by_cases h1 : s.n < mp
  · simp [h1, AgreeW]
  · by_cases h2 : s.n ≥ 3
    · simp only [h1, h2, if_false, if_true, sq]
      by_cases h3 : s.s2 / ↑s.n - s.s1 / ↑s.n * (s.s1 / ↑s.n) ≤ EPS
      · simp [h3, AgreeW]
      · simp only [h3, if_false, AgreeW]
        split_ifs <;> simp
    · simp [h1, h2, AgreeW]

theorem std_emit_core (sqrt : Rat → Rat) (hs0 : sqrt 0 = 0) (xs ys : List (Option Rat)) (alpha beta : Rat) (a n : Nat)
    (F : Nat → Option Rat) (hF : ∀ j, F j = residOf alpha beta (ugetPair xs ys j)) :
    Agree sqrt (GenAgg.vstd.run sqrt ((List.range' a n).map F) 2)
      (aggStd 2 (resids alpha beta ((List.range' a n).map (ugetPair xs ys)))) := by
  rw [resids_range xs ys alpha beta a n F hF]
  exact vstd_resid sqrt hs0 _ 2 (le_refl 2)

theorem skew_emit_core (sqrt : Rat → Rat) (xs ys : List (Option Rat)) (alpha beta : Rat) (a n : Nat)
    (F : Nat → Option Rat) (hF : ∀ j, F j = residOf alpha beta (ugetPair xs ys j)) :
    AgreeW (GenAgg.vskew.run sqrt ((List.range' a n).map F) 3)
      (aggSkew 3 (resids alpha beta ((List.range' a n).map (ugetPair xs ys)))) := by
  rw [resids_range xs ys alpha beta a n F hF]
  exact vskew_resid sqrt _ 3

/-- the regenerated index-driven two-series closures, run over `(start?, end, (a, b))` calls -/
def genRunIdx2 {σ : Type} (step : σ → Option Nat → Nat → Pair → σ × Option Rat) (s : σ)
    (cs : List (Option Nat × Nat × Pair)) : List (Option Rat) :=
  runSt (fun s c => step s c.1 c.2.1 c.2.2) s cs

theorem idxRun_sim {σ : Type} (xs ys : List (Option Rat)) (f : σ → Option Nat → Nat → Pair → σ × Option Rat)
    (R : σ → Cross → Prop) (A : Option Rat → Out → Prop) (emit : Cross → Option Nat → Nat → Out)
    (hstate : ∀ g m st e v, R g m → R (f g st e v).1 (residNext xs ys m st v))
    (hemit : ∀ g m st e v, R g m → A (f g st e v).2 (emit (Cross.add m v) st e)) :
    ∀ (cs : List (Option Nat × Nat × Pair)) (g : σ) (m : Cross), R g m →
      List.Forall₂ A (genRunIdx2 f g cs) (idxRun (ugetPair xs ys) Cross.add Cross.remove emit m cs) := by
  intro cs
  induction cs with
  | nil => intro g m _; exact List.Forall₂.nil
  | cons c cs ih =>
    intro g m hr
    obtain ⟨st, e, v⟩ := c
    refine List.Forall₂.cons (hemit g m st e v hr) ?_
    have := ih _ _ (hstate g m st e v hr)
    cases st <;> exact this

/-- a step function that is `Sums.step` on the kept sums runs in agreement with the model closure -/
theorem idxRun_sums {σ : Type} (xs ys : List (Option Rat)) (mp : Nat)
    (f : σ → Option Nat → Nat → Pair → σ × Option Rat) (sums : σ → Sums)
    (agg : List (Option Rat) → Option Rat) (agg' : List Rat → Out)
    (A : Option Rat → Out → Prop) (hnull : A none .null) (hdegen : ∀ o, A o .degen)
    (hagg : ∀ alpha beta a n (F : Nat → Option Rat), (∀ j, F j = residOf alpha beta (ugetPair xs ys j)) →
      A (agg ((List.range' a n).map F)) (agg' (resids alpha beta ((List.range' a n).map (ugetPair xs ys)))))
    (hf : ∀ g st e v, (sums (f g st e v).1, (f g st e v).2) = Sums.step agg mp xs ys (sums g) st e v)
    (g : σ) (hg : sums g = Sums.of Cross.zero) (cs : List (Option Nat × Nat × Pair)) :
    List.Forall₂ A (genRunIdx2 f g cs)
      (idxRun (ugetPair xs ys) Cross.add Cross.remove (emitResid agg' mp xs ys) Cross.zero cs) :=
  idxRun_sim xs ys f (fun g m => sums g = Sums.of m) A _
    (fun g m st e v h => (congrArg Prod.fst (hf g st e v)).trans (h ▸ Sums.step_state agg mp xs ys m st e v))
    (fun g m st e v h => by
      have e2 := congrArg Prod.snd (hf g st e v)
      dsimp only at e2
      rw [e2, h]
      exact Sums.step_emit A hnull hdegen agg agg' xs ys hagg mp m st e v)
    cs g _ hg

def R_resid_mean (g : Gen.ts_vregx_resid_mean.St) (m : Cross) : Prop :=
  g.n = m.n ∧ g.sum_a = m.sa ∧ g.sum_b = m.sb ∧ g.sum_b2 = m.sbb ∧ g.sum_ab = m.sab

def sums_mean (g : Gen.ts_vregx_resid_mean.St) : Sums := (g.n, g.sum_a, g.sum_b, g.sum_b2, g.sum_ab)

theorem ts_vregx_resid_mean_sums (sqrt : Rat → Rat) (xs ys : List (Option Rat)) (len w mp : Nat)
    (g : Gen.ts_vregx_resid_mean.St) (st : Option Nat) (e : Nat) (v : Pair) :
    (sums_mean (Gen.ts_vregx_resid_mean.step sqrt xs ys len w mp g st e v).1,
      (Gen.ts_vregx_resid_mean.step sqrt xs ys len w mp g st e v).2) =
    Sums.step (GenAgg.vmean.run sqrt) mp xs ys (sums_mean g) st e v := by
  cases st <;> rfl

theorem ts_vregx_resid_mean_mask (sqrt : Rat → Rat) (xs ys : List (Option Rat)) (len w mp : Nat)
    (g : Gen.ts_vregx_resid_mean.St) (m : Cross) (st : Option Nat) (e : Nat) (v : Pair) (h : R_resid_mean g m)
    (hlt : (Cross.add m v).n < mp) :
    (Gen.ts_vregx_resid_mean.step sqrt xs ys len w mp g st e v).2 = none := by
  have hs : sums_mean g = Sums.of m := Sums.mk_eq_of.2 h
  exact (congrArg Prod.snd (ts_vregx_resid_mean_sums sqrt xs ys len w mp g st e v)).trans
    (hs ▸ Sums.step_mask _ mp xs ys m st e v hlt)

theorem ts_vregx_resid_mean_minPeriods (len w : Nat) (mp : Option Nat) :
    Gen.ts_vregx_resid_mean.minPeriods len w mp = effMp mp w 0 :=
  effMp_zero mp w

/-- the closure regenerated from the source of `ts_vregx_resid_mean`, driven over the index callbacks
of either driver shape, yields the mean of the least-squares residuals of the pairwise-complete
observations of the window at every position -/
theorem ts_vregx_resid_mean_exact (sqrt : Rat → Rat) (sh : Shape) (xs ys : List (Option Rat)) (w : Nat) (mp : Option Nat)
    (hw : 1 ≤ w) (hlen : ys.length = xs.length) :
    List.Forall₂ (Agree sqrt)
      (genRunIdx2 (Gen.ts_vregx_resid_mean.step sqrt xs ys xs.length w (Gen.ts_vregx_resid_mean.minPeriods xs.length w mp))
        (Gen.ts_vregx_resid_mean.init xs.length w) (idx2Calls sh xs ys (Gen.ts_vregx_resid_mean.effWindow xs.length w)))
      (rolling2 (regxResidMean (effMp mp w 0)) xs ys w) := by
  rw [ts_vregx_resid_mean_minPeriods, ← C04.vregx_resid_mean_exact sh xs ys w mp hw hlen]
  exact idxRun_sums xs ys _ _ sums_mean _ _ (Agree sqrt) rfl (fun _ => trivial) (mean_emit_core sqrt xs ys)
    (ts_vregx_resid_mean_sums sqrt xs ys _ w _) _ rfl _

/-- **from source, end to end**: regenerated two-series index driver (both shapes) + regenerated closure
+ regenerated aggregation -/
theorem ts_vregx_resid_mean_from_source (sqrt : Rat → Rat) (xs ys : List (Option Rat)) (w : Nat) (mp : Option Nat)
    (hw : 1 ≤ w) (hlen : ys.length = xs.length) :
    C02Gen.E2EIdx2 (fun cs => List.Forall₂ (Agree sqrt)
      (genRunIdx2 (Gen.ts_vregx_resid_mean.step sqrt xs ys xs.length w (Gen.ts_vregx_resid_mean.minPeriods xs.length w mp)) (Gen.ts_vregx_resid_mean.init xs.length w) cs)
      (rolling2 (regxResidMean (effMp mp w 0)) xs ys w)) xs ys (Gen.ts_vregx_resid_mean.effWindow xs.length w) :=
  C02Gen.e2e_idx2 _ xs ys _ hw (by omega) (ts_vregx_resid_mean_exact sqrt .to xs ys w mp hw hlen)
    (ts_vregx_resid_mean_exact sqrt .iter xs ys w mp hw hlen)

def R_resid_std (g : Gen.ts_vregx_resid_std.St) (m : Cross) : Prop :=
  g.n = m.n ∧ g.sum_a = m.sa ∧ g.sum_b = m.sb ∧ g.sum_b2 = m.sbb ∧ g.sum_ab = m.sab

def sums_std (g : Gen.ts_vregx_resid_std.St) : Sums := (g.n, g.sum_a, g.sum_b, g.sum_b2, g.sum_ab)

theorem ts_vregx_resid_std_sums (sqrt : Rat → Rat) (xs ys : List (Option Rat)) (len w mp : Nat)
    (g : Gen.ts_vregx_resid_std.St) (st : Option Nat) (e : Nat) (v : Pair) :
    (sums_std (Gen.ts_vregx_resid_std.step sqrt xs ys len w mp g st e v).1,
      (Gen.ts_vregx_resid_std.step sqrt xs ys len w mp g st e v).2) =
    Sums.step (fun l => GenAgg.vstd.run sqrt l 2) mp xs ys (sums_std g) st e v := by
  cases st <;> rfl

theorem ts_vregx_resid_std_mask (sqrt : Rat → Rat) (xs ys : List (Option Rat)) (len w mp : Nat)
    (g : Gen.ts_vregx_resid_std.St) (m : Cross) (st : Option Nat) (e : Nat) (v : Pair) (h : R_resid_std g m)
    (hlt : (Cross.add m v).n < mp) :
    (Gen.ts_vregx_resid_std.step sqrt xs ys len w mp g st e v).2 = none := by
  have hs : sums_std g = Sums.of m := Sums.mk_eq_of.2 h
  exact (congrArg Prod.snd (ts_vregx_resid_std_sums sqrt xs ys len w mp g st e v)).trans
    (hs ▸ Sums.step_mask _ mp xs ys m st e v hlt)

theorem ts_vregx_resid_std_minPeriods (len w : Nat) (mp : Option Nat) :
    Gen.ts_vregx_resid_std.minPeriods len w mp = effMp mp w 0 :=
  effMp_zero mp w

/-- as `ts_vregx_resid_mean_exact`, for `vstd` (hence `hs0`, see `vstd_resid`) -/
theorem ts_vregx_resid_std_exact (sqrt : Rat → Rat) (hs0 : sqrt 0 = 0) (sh : Shape) (xs ys : List (Option Rat)) (w : Nat) (mp : Option Nat)
    (hw : 1 ≤ w) (hlen : ys.length = xs.length) :
    List.Forall₂ (Agree sqrt)
      (genRunIdx2 (Gen.ts_vregx_resid_std.step sqrt xs ys xs.length w (Gen.ts_vregx_resid_std.minPeriods xs.length w mp))
        (Gen.ts_vregx_resid_std.init xs.length w) (idx2Calls sh xs ys (Gen.ts_vregx_resid_std.effWindow xs.length w)))
      (rolling2 (regxResidStd (effMp mp w 0)) xs ys w) := by
  rw [ts_vregx_resid_std_minPeriods, ← C04.vregx_resid_std_exact sh xs ys w mp hw hlen]
  exact idxRun_sums xs ys _ _ sums_std _ _ (Agree sqrt) rfl (fun _ => trivial) (std_emit_core sqrt hs0 xs ys)
    (ts_vregx_resid_std_sums sqrt xs ys _ w _) _ rfl _

theorem ts_vregx_resid_std_from_source (sqrt : Rat → Rat) (hs0 : sqrt 0 = 0) (xs ys : List (Option Rat)) (w : Nat) (mp : Option Nat)
    (hw : 1 ≤ w) (hlen : ys.length = xs.length) :
    C02Gen.E2EIdx2 (fun cs => List.Forall₂ (Agree sqrt)
      (genRunIdx2 (Gen.ts_vregx_resid_std.step sqrt xs ys xs.length w (Gen.ts_vregx_resid_std.minPeriods xs.length w mp)) (Gen.ts_vregx_resid_std.init xs.length w) cs)
      (rolling2 (regxResidStd (effMp mp w 0)) xs ys w)) xs ys (Gen.ts_vregx_resid_std.effWindow xs.length w) :=
  C02Gen.e2e_idx2 _ xs ys _ hw (by omega) (ts_vregx_resid_std_exact sqrt hs0 .to xs ys w mp hw hlen)
    (ts_vregx_resid_std_exact sqrt hs0 .iter xs ys w mp hw hlen)

def R_resid_skew (g : Gen.ts_vregx_resid_skew.St) (m : Cross) : Prop :=
  g.n = m.n ∧ g.sum_a = m.sa ∧ g.sum_b = m.sb ∧ g.sum_b2 = m.sbb ∧ g.sum_ab = m.sab

def sums_skew (g : Gen.ts_vregx_resid_skew.St) : Sums := (g.n, g.sum_a, g.sum_b, g.sum_b2, g.sum_ab)

theorem ts_vregx_resid_skew_sums (sqrt : Rat → Rat) (xs ys : List (Option Rat)) (len w mp : Nat)
    (g : Gen.ts_vregx_resid_skew.St) (st : Option Nat) (e : Nat) (v : Pair) :
    (sums_skew (Gen.ts_vregx_resid_skew.step sqrt xs ys len w mp g st e v).1,
      (Gen.ts_vregx_resid_skew.step sqrt xs ys len w mp g st e v).2) =
    Sums.step (fun l => GenAgg.vskew.run sqrt l 3) mp xs ys (sums_skew g) st e v := by
  cases st <;> rfl

theorem ts_vregx_resid_skew_mask (sqrt : Rat → Rat) (xs ys : List (Option Rat)) (len w mp : Nat)
    (g : Gen.ts_vregx_resid_skew.St) (m : Cross) (st : Option Nat) (e : Nat) (v : Pair) (h : R_resid_skew g m)
    (hlt : (Cross.add m v).n < mp) :
    (Gen.ts_vregx_resid_skew.step sqrt xs ys len w mp g st e v).2 = none := by
  have hs : sums_skew g = Sums.of m := Sums.mk_eq_of.2 h
  exact (congrArg Prod.snd (ts_vregx_resid_skew_sums sqrt xs ys len w mp g st e v)).trans
    (hs ▸ Sums.step_mask _ mp xs ys m st e v hlt)

theorem ts_vregx_resid_skew_minPeriods (len w : Nat) (mp : Option Nat) :
    Gen.ts_vregx_resid_skew.minPeriods len w mp = effMp mp w 0 :=
  effMp_zero mp w

/-- as `ts_vregx_resid_mean_exact`, for `vskew`, in the weak form of `vskew_resid` -/
theorem ts_vregx_resid_skew_exact (sqrt : Rat → Rat) (sh : Shape) (xs ys : List (Option Rat)) (w : Nat) (mp : Option Nat)
    (hw : 1 ≤ w) (hlen : ys.length = xs.length) :
    List.Forall₂ AgreeW
      (genRunIdx2 (Gen.ts_vregx_resid_skew.step sqrt xs ys xs.length w (Gen.ts_vregx_resid_skew.minPeriods xs.length w mp))
        (Gen.ts_vregx_resid_skew.init xs.length w) (idx2Calls sh xs ys (Gen.ts_vregx_resid_skew.effWindow xs.length w)))
      (rolling2 (regxResidSkew (effMp mp w 0)) xs ys w) := by
  rw [ts_vregx_resid_skew_minPeriods, ← C04.vregx_resid_skew_exact sh xs ys w mp hw hlen]
  exact idxRun_sums xs ys _ _ sums_skew _ _ (AgreeW) rfl (fun _ => trivial) (skew_emit_core sqrt xs ys)
    (ts_vregx_resid_skew_sums sqrt xs ys _ w _) _ rfl _

theorem ts_vregx_resid_skew_from_source (sqrt : Rat → Rat) (xs ys : List (Option Rat)) (w : Nat) (mp : Option Nat)
    (hw : 1 ≤ w) (hlen : ys.length = xs.length) :
    C02Gen.E2EIdx2 (fun cs => List.Forall₂ AgreeW
      (genRunIdx2 (Gen.ts_vregx_resid_skew.step sqrt xs ys xs.length w (Gen.ts_vregx_resid_skew.minPeriods xs.length w mp)) (Gen.ts_vregx_resid_skew.init xs.length w) cs)
      (rolling2 (regxResidSkew (effMp mp w 0)) xs ys w)) xs ys (Gen.ts_vregx_resid_skew.effWindow xs.length w) :=
  C02Gen.e2e_idx2 _ xs ys _ hw (by omega) (ts_vregx_resid_skew_exact sqrt .to xs ys w mp hw hlen)
    (ts_vregx_resid_skew_exact sqrt .iter xs ys w mp hw hlen)

theorem resid_closures_present :
    ∀ n ∈ ["ts_vregx_resid_mean", "ts_vregx_resid_std", "ts_vregx_resid_skew"], n ∈ Gen.closures := by
  simp only [List.forall_mem_cons, List.not_mem_nil, false_imp_iff, implies_true, and_true]
  repeat constructor

end Tv.C04Gen
