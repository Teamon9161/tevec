import Tv.Lemmas.C12Part
import Tv.Lemmas.C12Pct
import Tv.Lemmas.C12Quant
import Tv.Lemmas.C12RankLoop
import Tv.Lemmas.C12Gen
/-!
# C12 — quantiles, percentile ranks, ranks and partitions are true order statistics

Property theorems only (helper lemmas live in `Tv/Lemmas/C12*.lean`).

Every theorem about a kernel that calls `sort_unstable_by` / `select_nth_unstable_by` is stated for an
**arbitrary** `S : Std` satisfying the std contract `S.Ok` (the sort returns a pairwise-ordered
permutation; the selection returns `(head, m, tail)` with `head ≤ m ≤ tail` and `|head| = j`), so it
holds whatever permutation the unstable algorithms actually produce. `exec_ok` shows the contract is
satisfiable (by the instance the model driver runs).

The specification side (`Tv.C12.Spec`) is written from scratch on `List.mergeSort` of the non-null
elements and plain counts.
-/
namespace Tv.C12
open Tv

/-- the std contract is satisfiable: the driver's insertion-sort instance meets it -/
theorem exec_ok : Std.exec.Ok := Std.exec_ok

/-- **tie to the source text** (translator/extract.py → `Tv/Generated.lean`): the match arms of
`IsNone::sort_cmp` / `sort_cmp_rev` as they stand in tea-dtype/src/isnone.rs denote exactly the
comparators the model is built from (nulls last in both directions, `partial_cmp` resp. its
reverse on values); `vmedian` is `vquantile(1/2, Linear)`; the direct branch is taken for `q <= 1/2`.
An edit of any of these fragments breaks this theorem before a single input is run. -/
theorem c12_matches :
    (∀ a b, cmpOfTable Generated.c12SortCmp a b = some (sortCmp a b)) ∧
    (∀ a b, cmpOfTable Generated.c12SortCmpRev a b = some (sortCmpRev a b)) ∧
    Generated.c12MedianQ = (1, 2) ∧ Generated.c12MedianMethod = "Linear" ∧
    Generated.c12BranchTest = ("<=", (1, 2)) := by
  refine ⟨?_, ?_, rfl, rfl, rfl⟩ <;> intro a b <;> cases a <;> cases b <;> rfl

/-- **the `q`-quantile is the value at fractional index `(n-1)·q` of the sorted non-null elements
under the requested interpolation** — for every series (nulls anywhere, ties), every `q ∈ [0,1]`
(both the direct branch `q ≤ 1/2` and the mirrored branch `q > 1/2` that selects on the descending
order), all four interpolations, and whatever permutation `select_nth_unstable_by` produces. -/
theorem quantile_exact {S : Std} (hS : S.Ok) (xs : List Elem) (q : Rat) (m : QMethod)
    (h0 : 0 ≤ q) (h1 : q ≤ 1) : vquantile S xs q m = .ok (Spec.quantile xs q (toInterp m)) := by
  unfold vquantile
  rw [if_neg (not_not.mpr ⟨h0, h1⟩)]
  simp only []
  by_cases hn0 : (valid xs).length = 0
  · rw [if_pos hn0]; simp [Spec.quantile, hn0]
  · rw [if_neg hn0]
    by_cases hn1 : (valid xs).length = 1
    · rw [if_pos hn1, vquantile_one xs q m hn1]
    · rw [if_neg hn1]
      have hn : 2 ≤ (valid xs).length := by omega
      have hspec : Spec.quantile xs q (toInterp m) = Spec.interp (Spec.sortedValid xs false)
          ((((valid xs).length - 1 : Nat) : Rat) * q) (toInterp m) := by
        simp [Spec.quantile, hn0]
      by_cases hq : q ≤ 1 / 2
      · rw [if_pos hq, hspec]; exact vquantile_low hS xs q m h0 h1 hn
      · rw [if_neg hq, hspec]; exact vquantile_high hS xs q m (not_le.mp hq) h1 hn

/-- `q` outside `[0,1]` is rejected with an error -/
theorem quantile_err (S : Std) (xs : List Elem) (q : Rat) (m : QMethod) (h : ¬ (0 ≤ q ∧ q ≤ 1)) :
    vquantile S xs q m = .err := by
  unfold vquantile; rw [if_pos h]

/-- **the quantile is null only when there is no valid element** -/
theorem quantile_null_iff {S : Std} (hS : S.Ok) (xs : List Elem) (q : Rat) (m : QMethod)
    (h0 : 0 ≤ q) (h1 : q ≤ 1) : vquantile S xs q m = .ok .null ↔ (valid xs).length = 0 := by
  rw [quantile_exact hS xs q m h0 h1]
  constructor
  · intro h
    by_contra hn
    obtain ⟨v, hv⟩ := spec_quantile_val xs q (toInterp m) h0 h1 (Nat.pos_of_ne_zero hn)
    rw [hv] at h
    cases h
  · intro hn; simp [Spec.quantile, hn]

/-- the median is the `0.5`-quantile with linear interpolation -/
theorem median_eq {S : Std} (hS : S.Ok) (xs : List Elem) : vmedian S xs = .ok (Spec.median xs) := by
  unfold vmedian Spec.median
  exact quantile_exact hS xs (1 / 2) .linear (by norm_num) (by norm_num)

/-- the index lemma behind the mirrored branch: `⌊L - t⌋ = L - ⌈t⌉` and `⌈L - t⌉ = L - ⌊t⌋` -/
theorem mirror_index_nat (L : Nat) {t : Rat} (ht : 0 ≤ t) (htL : t ≤ (L : Rat)) :
    ((L : Rat) - t).floor.toNat = L - t.ceil.toNat ∧ ((L : Rat) - t).ceil.toNat = L - t.floor.toNat :=
  mirror_index L ht htL

/-- descending order read backwards is ascending order: `desc[j] = asc[n-1-j]` -/
theorem desc_get (xs : List Elem) {j : Nat} (hj : j < (valid xs).length) :
    (Spec.sortedValid xs true)[j]? = (Spec.sortedValid xs false)[(valid xs).length - 1 - j]? :=
  sortedValid_rev_get xs hj

/-- F11 (pinned tree): with exactly one valid element `slc[0]` was returned even when it is null -/
theorem quantile_pinned_wrong :
    vquantilePinned Std.exec [none, some 5] (1 / 2) .linear = .ok .null ∧
    vquantile Std.exec [none, some 5] (1 / 2) .linear = .ok (.val 5) := by
  constructor <;> decide +kernel

/-- non-vacuity: nulls around the data, ties, both branches, all four interpolations -/
example : vquantile Std.exec [none, some 3, some 1, none, some 1, some 4] (1 / 4) .linear = .ok (.val 1) ∧
    vquantile Std.exec [none, some 3, some 1, none, some 1, some 4] (7 / 8) .linear = .ok (.val (29 / 8)) ∧
    vquantile Std.exec [none, some 3, some 1, none, some 1, some 4] (7 / 8) .lower = .ok (.val 3) ∧
    vquantile Std.exec [none, some 3, some 1, none, some 1, some 4] (7 / 8) .higher = .ok (.val 4) ∧
    vquantile Std.exec [none, some 3, some 1, none, some 1, some 4] (7 / 8) .midpoint = .ok (.val (7 / 2)) := by
  refine ⟨?_, ?_, ?_, ?_, ?_⟩ <;> decide +kernel

/-- **rank kind**: `(#< + #≤ + [#≤ > #<]) / (2n)`, the mean percentage rank of the matching scores -/
theorem percentile_rank_exact (xs : List Elem) (s : Rat) :
    vpercentileOf xs (some s) .rank = Spec.percentileOf xs (some s) .rank :=
  vpercentileOf_rank xs s

/-- **weak kind**: `#≤ / n` -/
theorem percentile_weak_exact (xs : List Elem) (s : Rat) :
    vpercentileOf xs (some s) .weak = Spec.percentileOf xs (some s) .weak :=
  vpercentileOf_weak xs s

/-- **strict kind**: `#< / n` -/
theorem percentile_strict_exact (xs : List Elem) (s : Rat) :
    vpercentileOf xs (some s) .strict = Spec.percentileOf xs (some s) .strict :=
  vpercentileOf_strict xs s

/-- a null score has a null percentile, whatever the data -/
theorem percentile_null_score (xs : List Elem) (m : PMethod) : vpercentileOf xs none m = .null := rfl

/-- the result is null exactly when the score is null or there is no valid element -/
theorem percentile_null_iff (xs : List Elem) (score : Elem) (m : PMethod) :
    vpercentileOf xs score m = .null ↔ score = none ∨ (valid xs).length = 0 := by
  cases score with
  | none => simp [vpercentileOf]
  | some s =>
    have key : ∀ k, Spec.percentileOf xs (some s) k = .null ↔ (valid xs).length = 0 := by
      intro k
      by_cases hn : (valid xs).length = 0
      · simp [Spec.percentileOf, hn]
      · cases k <;> simp [Spec.percentileOf, hn]
    cases m
    · rw [percentile_rank_exact]; simpa using key .rank
    · rw [percentile_weak_exact]; simpa using key .weak
    · rw [percentile_strict_exact]; simpa using key .strict

example : vpercentileOf [some 1, none, some 2, none, some 3, some 3, some 3, some 4, some 5] (some 3) .rank
    = .val (4 / 7) := by
  rw [percentile_rank_exact]; decide +kernel

/-- **`vrank(pct, rev)` assigns every non-null element its average rank and null to nulls**: the
output (every slot initialised — no `none`) is the from-scratch rank vector: element `v` gets
`#before + (#equal + 1)/2` where "before" means smaller (ascending) or larger (`rev`), divided by the
number of valid elements when `pct`. Holds for every series (nulls anywhere, ties, all-null, length
0 and 1) and for whatever order the unstable argsort leaves tied indices in. -/
theorem vrank_exact {S : Std} (hS : S.Ok) (xs : List Elem) (pct rev : Bool) :
    vrank S xs pct rev = (Spec.rank xs pct rev).map some :=
  vrank_spec hS xs pct rev

theorem vrank_length {S : Std} (hS : S.Ok) (xs : List Elem) (pct rev : Bool) :
    (vrank S xs pct rev).length = xs.length := by
  rw [vrank_exact hS]; simp [Spec.rank]

/-- slot `i` is null exactly when element `i` is null -/
theorem vrank_null_iff {S : Std} (hS : S.Ok) (xs : List Elem) (pct rev : Bool) (i : Nat)
    (hi : i < xs.length) : (vrank S xs pct rev)[i]? = some (some .null) ↔ xs[i] = none := by
  rw [vrank_exact hS]
  simp only [Spec.rank, List.map_map, List.getElem?_map, List.getElem?_eq_getElem hi, Option.map_some,
    Function.comp]
  cases xs[i] <;> simp

/-- positional form: the rank of a non-null element -/
theorem vrank_get {S : Std} (hS : S.Ok) (xs : List Elem) (pct rev : Bool) (i : Nat) (v : Rat)
    (hi : i < xs.length) (hv : xs[i] = some v) :
    (vrank S xs pct rev)[i]? = some (some (.val (Spec.avgRank xs pct rev v))) := by
  rw [vrank_exact hS]
  simp only [Spec.rank, List.map_map, List.getElem?_map, List.getElem?_eq_getElem hi, Option.map_some,
    Function.comp, hv]

/-- F18 (pinned tree): a single null element was ranked `1.0` -/
theorem rank_pinned_wrong :
    vrankPinned Std.exec [none] false false = [some (.val 1)] ∧
    vrank Std.exec [none] false false = [some .null] := by
  constructor <;> decide +kernel

/-- non-vacuity: ties, a null in the middle, both directions, fraction form -/
example : vrank Std.exec [some 2, some 1, none, some 3, some 1] false false
    = [some (.val 3), some (.val (3 / 2)), some .null, some (.val 4), some (.val (3 / 2))] := by
  decide +kernel
example : vrank Std.exec [some 2, some 1, none, some 3, some 1] true true
    = [some (.val (1 / 2)), some (.val (7 / 8)), some .null, some (.val (1 / 4)), some (.val (7 / 8))] := by
  decide +kernel

/-- **`vpartition(k, sort, rev)` returns exactly `k+1` entries**, never panics, and they are a
rearrangement of the spec's partition (the `k+1` smallest — largest when `rev` — non-null elements,
null-padded when fewer exist); with `sort = true` they are that list itself, in order. -/
theorem partition_exact {S : Std} (hS : S.Ok) (xs : List Elem) (k : Nat) (sort rev : Bool) :
    ∃ r, vpartition S xs k sort rev = some r ∧ r.length = k + 1 ∧
      r.Perm (Spec.partition xs k rev) ∧ (sort = true → r = Spec.partition xs k rev) := by
  obtain ⟨r, h1, h2, h3⟩ := vpartition_spec hS xs k sort rev
  exact ⟨r, h1, by rw [h2.length_eq, spec_partition_length], h2, h3⟩

/-- the spec's partition has `k+1` entries: the first `min(k+1, n)` are non-null, the rest null -/
theorem partition_spec_shape (xs : List Elem) (k : Nat) (rev : Bool) :
    (Spec.partition xs k rev).length = k + 1 ∧
    Spec.partition xs k rev = ((Spec.sortedValid xs rev).take (k + 1)).map some ++
      List.replicate (k + 1 - min (k + 1) (valid xs).length) none :=
  ⟨spec_partition_length xs k rev, spec_partition_eq xs k rev⟩

/-- number of null entries of a partition result = padding only (`k+1 - min(k+1, n)`): a partition
never picks a null element while a non-null one is available -/
theorem partition_padding {S : Std} (hS : S.Ok) (xs : List Elem) (k : Nat) (sort rev : Bool) :
    ∃ r, vpartition S xs k sort rev = some r ∧
      r.count none = k + 1 - min (k + 1) (valid xs).length := by
  obtain ⟨r, h1, h2, _⟩ := vpartition_spec hS xs k sort rev
  refine ⟨r, h1, ?_⟩
  rw [h2.count_eq, spec_partition_eq, List.count_append, List.count_replicate_self]
  have : List.count none (((Spec.sortedValid xs rev).take (k + 1)).map some) = 0 := by
    rw [List.count_eq_zero]
    intro h
    have := List.mem_map.mp h
    obtain ⟨v, _, hv⟩ := this
    cases hv
  omega

/-- **`varg_partition(k, sort, rev)`**: never panics; the result is a list `idx` of pairwise distinct,
in-range indices of **non-null** elements followed by `-1` padding up to exactly `k+1` entries
(`ArgOk`); the values the entries refer to (`none` for `-1`) are a rearrangement of the spec's
partition, and equal to it, in order, when `sort = true`. -/
theorem argpartition_exact {S : Std} (hS : S.Ok) (xs : List Elem) (k : Nat) (sort rev : Bool) :
    ∃ r idx, vargPartition S xs k sort rev = some r ∧ r.length = k + 1 ∧ ArgOk xs k r idx ∧
      (argValues xs k idx).Perm (Spec.partition xs k rev) ∧
      (sort = true → argValues xs k idx = Spec.partition xs k rev) := by
  obtain ⟨r, idx, h1, h2, h3, h4⟩ := vargPartition_spec hS xs k sort rev
  refine ⟨r, idx, h1, ?_, h2, h3, h4⟩
  rw [h2.shape, List.length_append, List.length_map, List.length_replicate]
  have := h2.len; omega

/-- every non-negative entry of an arg-partition points at a non-null element -/
theorem argpartition_valid {S : Std} (hS : S.Ok) (xs : List Elem) (k : Nat) (sort rev : Bool) :
    ∃ r, vargPartition S xs k sort rev = some r ∧
      ∀ e ∈ r, e = -1 ∨ ∃ i : Nat, e = Int.ofNat i ∧ i < xs.length ∧ ∃ v, xs[i]? = some (some v) := by
  obtain ⟨r, idx, h1, h2, _, _⟩ := vargPartition_spec hS xs k sort rev
  refine ⟨r, h1, ?_⟩
  intro e he
  rw [h2.shape, List.mem_append] at he
  rcases he with he | he
  · obtain ⟨i, hi, rfl⟩ := List.mem_map.mp he
    exact Or.inr ⟨i, rfl, h2.valid i hi⟩
  · exact Or.inl (List.mem_replicate.mp he).2

/-- F19 (pinned tree): `vpartition(k ≥ len, sort = true)` returned `len`, not `k+1`, entries -/
theorem partition_pinned_wrong :
    (vpartitionPinned Std.exec [some 1, none] 5 true false).map List.length = some 2 := by
  decide +kernel

/-- non-vacuity: nulls in the middle, ties, both directions, padding -/
example : vpartition Std.exec [some 1, none, some 3, none, none] 2 true true = some [some 3, some 1, none] := by
  decide +kernel
example : vargPartition Std.exec [some 1, none, some 3, none, none] 2 true true = some [2, 0, -1] := by
  decide +kernel
example : Spec.partition [some 1, none, some 3, none, none] 2 true = [some 3, some 1, none] := by
  obtain ⟨r, h1, _, _, h4⟩ := partition_exact exec_ok [some 1, none, some 3, none, none] 2 true true
  rw [← h4 rfl]
  have : vpartition Std.exec [some 1, none, some 3, none, none] 2 true true = some [some 3, some 1, none] := by
    decide +kernel
  rw [this] at h1
  exact (Option.some.inj h1).symm

end Tv.C12
