import Tv.Thm.C06
import Tv.Thm.C01Gen
import Tv.Thm.C03Gen
import Tv.Thm.C04Gen
set_option linter.unusedVariables false
/-!
# C06 — no look-ahead and window locality of the closures regenerated from source

`Tv/Thm/C06.lean` proves the two clauses for the hand-written model. Here they are proved for the
step functions that `translator/closures.py` regenerates from tea-rolling on every run: the
regenerated closure, driven over the callbacks of either driver shape, was shown (C01Gen, C03Gen,
C04Gen) to produce at every position a value that `Agree`s with a function of that position's
window alone. Hence

* run on a prefix it produces values agreeing with the *prefix of the whole series' windowed
  statistics* (`*_gen_prefix`): nothing to the right of the cursor is read, and
* on two equally long series that coincide on the window of position `i`, both runs agree at `i`
  with one and the same windowed statistic (`*_gen_prewindow`).

The two clauses are stated for representatives of each family (`*_gen_prefix`: `ts_vsum`, `ts_vstd`,
`ts_vmin`, `ts_vmax`, `ts_vargmin`, `ts_vargmax`, `ts_vrank`, `ts_vzscore`, `ts_vminmaxnorm`;
`*_gen_prewindow`: `ts_vsum`, `ts_vmax`, `ts_vmin`); for any other closure with an `_exact` theorem
they are the same one-line instance of `prefix_of_agree` / `local_of_agree`.

An edit of a closure that makes an accumulator depend on anything but the current window breaks
the `*_exact` theorem these are instances of, and with it this module.
-/
namespace Tv.C06Gen
open Tv Tv.GenSim
open Tv.C03Gen (genRunIdx)

/-- generic: a run that agrees position by position with `i ↦ F (window xs i w)` for every series,
evaluated on a prefix, agrees with the prefix of the windowed statistics of the whole series -/
theorem prefix_of_agree {β γ : Type} (R : β → γ → Prop) (G : List (Option Rat) → List β)
    (F : List (Option Rat) → γ) (w : Nat)
    (hG : ∀ xs, List.Forall₂ R (G xs) ((List.range xs.length).map fun i => F (window xs i w)))
    (xs : List (Option Rat)) (k : Nat) :
    List.Forall₂ R (G (xs.take k)) (((List.range xs.length).map fun i => F (window xs i w)).take k) := by
  rw [← windowed_prefix F xs w k]
  exact hG _

/-- generic: … and on two equally long series that coincide on the window of `i`, the outputs at
`i` of the two runs agree with the same value `F (window xs i w)` -/
theorem local_of_agree {β γ : Type} (R : β → γ → Prop) (G : List (Option Rat) → List β)
    (F : List (Option Rat) → γ) (w : Nat)
    (hG : ∀ xs, List.Forall₂ R (G xs) ((List.range xs.length).map fun i => F (window xs i w)))
    (xs ys : List (Option Rat)) (hlen : xs.length = ys.length) (i : Nat) (hi : i < xs.length)
    (h : ∀ j, i + 1 - w ≤ j → j ≤ i → xs[j]? = ys[j]?) :
    ∃ a b, (G xs)[i]? = some a ∧ (G ys)[i]? = some b ∧ R a (F (window xs i w)) ∧ R b (F (window xs i w)) := by
  obtain ⟨a, ha, ra⟩ := getElem?_of_forall₂ (hG xs) (windowed_get F xs w i hi)
  obtain ⟨b, hb, rb⟩ := getElem?_of_forall₂ (hG ys) (windowed_get F ys w i (hlen ▸ hi))
  exact ⟨a, b, ha, hb, ra, window_congr xs ys i w h ▸ rb⟩

/-! ## feature family (features.rs), regenerated -/

theorem ts_vsum_gen_prefix (sqrt : Rat → Rat) (sh : Shape) (xs : List (Option Rat)) (w : Nat) (mp : Option Nat)
    (hw : 1 ≤ w) (k : Nat) :
    List.Forall₂ (Agree sqrt)
      (genRun (Gen.ts_vsum.step sqrt w (Gen.ts_vsum.minPeriods w mp)) (Gen.ts_vsum.init w) (applyCalls sh (xs.take k) w))
      (((List.range xs.length).map fun i => Spec.feat .sum w mp (vwin xs i w)).take k) :=
  prefix_of_agree (Agree sqrt) _ (fun l => Spec.feat .sum w mp (valid l)) w
    (fun zs => C01Gen.ts_vsum_exact sqrt sh zs w mp hw) xs k

theorem ts_vstd_gen_prefix (sqrt : Rat → Rat) (sh : Shape) (xs : List (Option Rat)) (w : Nat) (mp : Option Nat)
    (hw : 1 ≤ w) (k : Nat) :
    List.Forall₂ (Agree sqrt)
      (genRun (Gen.ts_vstd.step sqrt w (Gen.ts_vstd.minPeriods w mp)) (Gen.ts_vstd.init w) (applyCalls sh (xs.take k) w))
      (((List.range xs.length).map fun i => Spec.feat .std w mp (vwin xs i w)).take k) :=
  prefix_of_agree (Agree sqrt) _ (fun l => Spec.feat .std w mp (valid l)) w
    (fun zs => C01Gen.ts_vstd_exact sqrt sh zs w mp hw) xs k

theorem ts_vsum_gen_prewindow (sqrt : Rat → Rat) (sh : Shape) (xs ys : List (Option Rat)) (w : Nat) (mp : Option Nat)
    (hw : 1 ≤ w) (hlen : xs.length = ys.length) (i : Nat) (hi : i < xs.length)
    (h : ∀ j, i + 1 - w ≤ j → j ≤ i → xs[j]? = ys[j]?) :
    ∃ a b,
      (genRun (Gen.ts_vsum.step sqrt w (Gen.ts_vsum.minPeriods w mp)) (Gen.ts_vsum.init w) (applyCalls sh xs w))[i]? = some a ∧
      (genRun (Gen.ts_vsum.step sqrt w (Gen.ts_vsum.minPeriods w mp)) (Gen.ts_vsum.init w) (applyCalls sh ys w))[i]? = some b ∧
      Agree sqrt a (Spec.feat .sum w mp (vwin xs i w)) ∧ Agree sqrt b (Spec.feat .sum w mp (vwin xs i w)) :=
  local_of_agree (Agree sqrt) _ (fun l => Spec.feat .sum w mp (valid l)) w
    (fun zs => C01Gen.ts_vsum_exact sqrt sh zs w mp hw) xs ys hlen i hi h

/-! ## extrema / arg-extrema / rank (cmp.rs), regenerated: explicit `min_periods` -/

theorem ts_vmin_gen_prefix (sqrt : Rat → Rat) (sh : Shape) (xs : List (Option Rat)) (w m : Nat) (hw : 1 ≤ w) (k : Nat) :
    List.Forall₂ (Agree sqrt)
      (genRunIdx (Gen.ts_vmin.step sqrt (xs.take k) (xs.take k).length w (Gen.ts_vmin.minPeriods (xs.take k).length w (some m)))
        (Gen.ts_vmin.init (xs.take k).length w) (idxCalls sh (xs.take k) (Gen.ts_vmin.effWindow (xs.take k).length w)))
      (((List.range xs.length).map fun i => C03.Spec.tsMin m (window xs i w)).take k) :=
  prefix_of_agree (Agree sqrt) _ (C03.Spec.tsMin m) w
    (fun zs => C03Gen.ts_vmin_exact sqrt sh zs w (some m) hw) xs k

theorem ts_vmax_gen_prefix (sqrt : Rat → Rat) (sh : Shape) (xs : List (Option Rat)) (w m : Nat) (hw : 1 ≤ w) (k : Nat) :
    List.Forall₂ (Agree sqrt)
      (genRunIdx (Gen.ts_vmax.step sqrt (xs.take k) (xs.take k).length w (Gen.ts_vmax.minPeriods (xs.take k).length w (some m)))
        (Gen.ts_vmax.init (xs.take k).length w) (idxCalls sh (xs.take k) (Gen.ts_vmax.effWindow (xs.take k).length w)))
      (((List.range xs.length).map fun i => C03.Spec.tsMax m (window xs i w)).take k) :=
  prefix_of_agree (Agree sqrt) _ (C03.Spec.tsMax m) w
    (fun zs => C03Gen.ts_vmax_exact sqrt sh zs w (some m) hw) xs k

theorem ts_vargmin_gen_prefix (sqrt : Rat → Rat) (sh : Shape) (xs : List (Option Rat)) (w m : Nat) (hw : 1 ≤ w) (k : Nat) :
    List.Forall₂ (Agree sqrt)
      (genRunIdx (Gen.ts_vargmin.step sqrt (xs.take k) (xs.take k).length w (Gen.ts_vargmin.minPeriods (xs.take k).length w (some m)))
        (Gen.ts_vargmin.init (xs.take k).length w) (idxCalls sh (xs.take k) (Gen.ts_vargmin.effWindow (xs.take k).length w)))
      (((List.range xs.length).map fun i => C03.Spec.tsArgmin m (window xs i w)).take k) :=
  prefix_of_agree (Agree sqrt) _ (C03.Spec.tsArgmin m) w
    (fun zs => C03Gen.ts_vargmin_exact sqrt sh zs w (some m) hw) xs k

theorem ts_vargmax_gen_prefix (sqrt : Rat → Rat) (sh : Shape) (xs : List (Option Rat)) (w m : Nat) (hw : 1 ≤ w) (k : Nat) :
    List.Forall₂ (Agree sqrt)
      (genRunIdx (Gen.ts_vargmax.step sqrt (xs.take k) (xs.take k).length w (Gen.ts_vargmax.minPeriods (xs.take k).length w (some m)))
        (Gen.ts_vargmax.init (xs.take k).length w) (idxCalls sh (xs.take k) (Gen.ts_vargmax.effWindow (xs.take k).length w)))
      (((List.range xs.length).map fun i => C03.Spec.tsArgmax m (window xs i w)).take k) :=
  prefix_of_agree (Agree sqrt) _ (C03.Spec.tsArgmax m) w
    (fun zs => C03Gen.ts_vargmax_exact sqrt sh zs w (some m) hw) xs k

theorem ts_vrank_gen_prefix (sqrt : Rat → Rat) (sh : Shape) (xs : List (Option Rat)) (w m : Nat) (pct rev : Bool)
    (hw : 1 ≤ w) (k : Nat) :
    List.Forall₂ (Agree sqrt)
      (genRunIdx (Gen.ts_vrank.step sqrt (xs.take k) (xs.take k).length w (Gen.ts_vrank.minPeriods (xs.take k).length w (some m)) pct rev)
        (Gen.ts_vrank.init (xs.take k).length w) (idxCalls sh (xs.take k) (Gen.ts_vrank.effWindow (xs.take k).length w)))
      (((List.range xs.length).map fun i => C03.Spec.tsRank m pct rev (window xs i w)).take k) :=
  prefix_of_agree (Agree sqrt) _ (C03.Spec.tsRank m pct rev) w
    (fun zs => C03Gen.ts_vrank_exact sqrt sh zs w (some m) pct rev hw) xs k

/-- **no dependence on pre-window data**: the regenerated `ts_vmax`, run over two equally long series that
coincide on the window of position `i`, yields at `i` values agreeing with one and the same
window maximum — whatever the pre-window history made the accumulator go through -/
theorem ts_vmax_gen_prewindow (sqrt : Rat → Rat) (sh : Shape) (xs ys : List (Option Rat)) (w m : Nat)
    (hw : 1 ≤ w) (hlen : xs.length = ys.length) (i : Nat) (hi : i < xs.length)
    (h : ∀ j, i + 1 - w ≤ j → j ≤ i → xs[j]? = ys[j]?) :
    ∃ a b,
      (genRunIdx (Gen.ts_vmax.step sqrt xs xs.length w (Gen.ts_vmax.minPeriods xs.length w (some m)))
        (Gen.ts_vmax.init xs.length w) (idxCalls sh xs (Gen.ts_vmax.effWindow xs.length w)))[i]? = some a ∧
      (genRunIdx (Gen.ts_vmax.step sqrt ys ys.length w (Gen.ts_vmax.minPeriods ys.length w (some m)))
        (Gen.ts_vmax.init ys.length w) (idxCalls sh ys (Gen.ts_vmax.effWindow ys.length w)))[i]? = some b ∧
      Agree sqrt a (C03.Spec.tsMax m (window xs i w)) ∧ Agree sqrt b (C03.Spec.tsMax m (window xs i w)) :=
  local_of_agree (Agree sqrt) _ (C03.Spec.tsMax m) w
    (fun zs => C03Gen.ts_vmax_exact sqrt sh zs w (some m) hw) xs ys hlen i hi h

theorem ts_vmin_gen_prewindow (sqrt : Rat → Rat) (sh : Shape) (xs ys : List (Option Rat)) (w m : Nat)
    (hw : 1 ≤ w) (hlen : xs.length = ys.length) (i : Nat) (hi : i < xs.length)
    (h : ∀ j, i + 1 - w ≤ j → j ≤ i → xs[j]? = ys[j]?) :
    ∃ a b,
      (genRunIdx (Gen.ts_vmin.step sqrt xs xs.length w (Gen.ts_vmin.minPeriods xs.length w (some m)))
        (Gen.ts_vmin.init xs.length w) (idxCalls sh xs (Gen.ts_vmin.effWindow xs.length w)))[i]? = some a ∧
      (genRunIdx (Gen.ts_vmin.step sqrt ys ys.length w (Gen.ts_vmin.minPeriods ys.length w (some m)))
        (Gen.ts_vmin.init ys.length w) (idxCalls sh ys (Gen.ts_vmin.effWindow ys.length w)))[i]? = some b ∧
      Agree sqrt a (C03.Spec.tsMin m (window xs i w)) ∧ Agree sqrt b (C03.Spec.tsMin m (window xs i w)) :=
  local_of_agree (Agree sqrt) _ (C03.Spec.tsMin m) w
    (fun zs => C03Gen.ts_vmin_exact sqrt sh zs w (some m) hw) xs ys hlen i hi h

/-! ## normalisation (norm.rs), regenerated: any `min_periods` -/

theorem ts_vzscore_gen_prefix (sqrt : Rat → Rat) (sh : Shape) (xs : List (Option Rat)) (w : Nat) (mp : Option Nat)
    (hw : 1 ≤ w) (k : Nat) :
    List.Forall₂ AgreeW
      (genRun (Gen.ts_vzscore.step sqrt w (Gen.ts_vzscore.minPeriods w mp)) (Gen.ts_vzscore.init w) (applyCalls sh (xs.take k) w))
      (((List.range xs.length).map fun i => C03.Spec.tsZscore (C03.normMp mp w) (window xs i w)).take k) :=
  prefix_of_agree AgreeW _ (C03.Spec.tsZscore (C03.normMp mp w)) w
    (fun zs => C03Gen.ts_vzscore_exact sqrt sh zs w mp hw) xs k

theorem ts_vminmaxnorm_gen_prefix (sqrt : Rat → Rat) (sh : Shape) (xs : List (Option Rat)) (w : Nat) (mp : Option Nat)
    (hw : 1 ≤ w) (k : Nat) :
    List.Forall₂ (Agree sqrt)
      (genRunIdx (Gen.ts_vminmaxnorm.step sqrt (xs.take k) (xs.take k).length w (Gen.ts_vminmaxnorm.minPeriods (xs.take k).length w mp))
        (Gen.ts_vminmaxnorm.init (xs.take k).length w) (idxCalls sh (xs.take k) (Gen.ts_vminmaxnorm.effWindow (xs.take k).length w)))
      (((List.range xs.length).map fun i => C03.Spec.tsMinmaxnorm (C03.normMp mp w) (window xs i w)).take k) :=
  prefix_of_agree (Agree sqrt) _ (C03.Spec.tsMinmaxnorm (C03.normMp mp w)) w
    (fun zs => C03Gen.ts_vminmaxnorm_exact sqrt sh zs w mp hw) xs k

/-! ## covariance / regression family (binary.rs, reg.rs) -/

/-- `C04Gen.ts_vcov_from_source`, stated again: it only records that the `*_from_source` theorems of
the three families (C01Gen, C03Gen, C04Gen) are among the imports of this module, so that building
it checks them all; it says nothing beyond that one theorem -/
theorem closures_in_scope (sqrt : Rat → Rat) (xs ys : List (Option Rat)) (w : Nat) (mp : Option Nat) (hw : 1 ≤ w)
    (hlen : ys.length = xs.length) :
    C02Gen.E2E2 (fun cs => List.Forall₂ (Agree sqrt)
      (genRun (Gen.ts_vcov.step sqrt w (Gen.ts_vcov.minPeriods w mp)) (Gen.ts_vcov.init w) cs)
      (C04.Spec.rolling2 (C04.Spec.cov (effMp mp w 2)) xs ys w)) xs ys w :=
  C04Gen.ts_vcov_from_source sqrt xs ys w mp hw hlen

end Tv.C06Gen
