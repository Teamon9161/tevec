import Tv.Lemmas.C16
import Tv.Lemmas.C16Cal
import Tv.Generated
/-!
# C16 — Not-a-Time is absorbing; unit changes agree with the calendar

Property theorems for the model `Tv/Model/C16Time.lean` of the *repaired* `tea-time` code
(`fix:` commits for F5 `into_unit` and F8 `Time ± TimeDelta`); the `…_pinned_wrong` theorems
exhibit the behaviour of the pinned tree on concrete witnesses.

Vocabulary: a `DateTime<U>` / `Time` is its raw `i64` (`InI64`), `NaT = -2^63`; a chrono
`DateTime<Utc>` is its instant in nanoseconds (`InCr` = chrono's range); `Res.panic` is a Rust
panic (overflow check, `unwrap`, `expect`). `floorTo a b x = ⌊x · ns(a) / ns(b)⌋` (Int `/` rounds
toward −∞ for the positive unit constants). Calendar-month shifts of chrono are an arbitrary
parameter `am` of the date-time operators: NaT absorption holds whatever they do.
Not proved here (DESIGN §6/C16 gaps): chrono's own Gregorian field extraction — the harness
compares the getters with the independent civil-date formulas of `Tv/Spec/C16Calendar.lean`.
-/
namespace Tv.C16

/-! ## the model is built from the tables in the source -/

/-- the (name, constant) pair under which translator/extract.py prints an arm of `into_unit` into
`Generated.unitTable` -/
def Op.render : Op → String × Int
  | .mul k => ("mul", k)
  | .divEuclid k => ("div_euclid", k)
  | .divTrunc k => ("tdiv", k)

/-- the match arms of `into_unit` extracted from convert.rs by the translator are exactly the arms
the model is built from (floor division, the six constants), and the NaT guard and the same-unit
shortcut are present -/
theorem unitTable_matches :
    Generated.unitTable = unitTable.map (fun e => (e.1.name, e.2.1.name, e.2.2.render.1, e.2.2.render.2))
    ∧ Generated.intoUnitNatGuard = true ∧ Generated.intoUnitSameUnitId = true := by decide +kernel

/-- every operator of impl_ops.rs guards exactly the operands the model guards (both operands for the
binary operators, `self` for negation and scaling) -/
theorem natGuards_matches :
    Generated.natGuards = [
      ("Add", "", "TimeDelta", "self&rhs"),
      ("Add", "TimeDelta", "DateTime<U>", "self&rhs"),
      ("Add", "TimeDelta", "Time", "self&rhs"),
      ("Mul", "i32", "TimeDelta", "self"),
      ("Neg", "", "TimeDelta", "self"),
      ("Sub", "", "TimeDelta", "self&rhs"),
      ("Sub", "DateTime<U>", "DateTime<U>", "self&rhs"),
      ("Sub", "TimeDelta", "DateTime<U>", "self&rhs"),
      ("Sub", "TimeDelta", "Time", "self&rhs")] := by decide +kernel

/-! ## NaT is preserved by every conversion -/

/-- converting a NaT date-time to any unit gives NaT (all 4×4 pairs) -/
theorem intoUnit_nat (a b : U) : intoUnit a b NaT = .ok NaT := by
  unfold intoUnit
  split
  · rfl
  · exact if_pos rfl

/-- `Cast<DateTime<b>>` is `into_unit` -/
theorem castUnit_eq (a b : U) (x : Int) : castUnit a b x = intoUnit a b x := by
  unfold castUnit intoUnit
  split <;> rfl

/-- the same through `Cast<DateTime<_>>` -/
theorem castUnit_nat (a b : U) : castUnit a b NaT = .ok NaT :=
  (castUnit_eq a b NaT).trans (intoUnit_nat a b)

/-- `into_opt_i64` / `Cast<Option<i64>>` of NaT is `None`, and of nothing else -/
theorem nat_optI64 (x : Int) : intoOptI64 x = none ↔ x = NaT := by
  unfold intoOptI64 isNat
  by_cases h : x = NaT <;> simp [h]

/-- … and of a valid value the value itself -/
theorem optI64_valid (x : Int) (hx : x ≠ NaT) : intoOptI64 x = some x := by
  simp [intoOptI64, isNat, hx]

/-- `from_opt_i64 ∘ into_opt_i64` is the identity (NaT ↦ None ↦ NaT) -/
theorem fromOpt_intoOpt (x : Int) : fromOptI64 (intoOptI64 x) = x := by
  unfold intoOptI64 isNat
  by_cases h : x = NaT <;> simp [h, fromOptI64]

/-- `as_cr` of NaT is `None` for every unit -/
theorem nat_asCr (u : U) : asCr u NaT = none := by
  simp [asCr, isNat]

/-- the calendar fields (`year` … `second` are `as_cr().map(..)`) of NaT are all `None` -/
theorem nat_fields (u : U) (f : Int → α) : (asCr u NaT).map f = none := by
  simp [nat_asCr]

/-- `From<Option<NaiveDateTime>>` of `None` is NaT -/
theorem fromOptCr_none (u : U) : fromOptCr u none = .ok NaT := rfl

/-! ## unit conversion of valid date-times -/

/-- **same instant, truncated toward the past**: on every valid `x`, `into_unit` returns
`⌊x·ns(a)/ns(b)⌋` whenever that number is an `i64` (also for negative, pre-1970 `x` not divisible
by the ratio) -/
theorem intoUnit_floor (a b : U) (x : Int) (hx : x ≠ NaT) (hr : InI64 x)
    (hfit : InI64 (floorTo a b x)) : intoUnit a b x = .ok (floorTo a b x) := by
  rw [intoUnit_closed a b x hx hr, if_pos hfit]

/-- … and it panics (debug overflow check) exactly when the floor does not fit; it never returns a
wrong value -/
theorem intoUnit_overflow (a b : U) (x : Int) (hx : x ≠ NaT) (hr : InI64 x)
    (hfit : ¬ InI64 (floorTo a b x)) : intoUnit a b x = .panic := by
  rw [intoUnit_closed a b x hx hr, if_neg hfit]

/-- converting to a coarser or equal unit never overflows -/
theorem intoUnit_coarser_total (a b : U) (x : Int) (hx : x ≠ NaT) (hr : InI64 x)
    (h : a.mult ≤ b.mult) : intoUnit a b x = .ok (floorTo a b x) :=
  intoUnit_floor a b x hx hr (floorTo_fits hx hr h).2

/-- a valid date-time stays valid: the result is an `i64` and never the NaT sentinel -/
theorem intoUnit_valid (a b : U) (x y : Int) (hx : x ≠ NaT) (hr : InI64 x)
    (h : intoUnit a b x = .ok y) : y ≠ NaT ∧ InI64 y :=
  (intoUnit_ok hx hr h).2

/-- converting to the unit a value already has changes nothing (also for NaT) -/
theorem intoUnit_same (a : U) (x : Int) : intoUnit a a x = .ok x := by
  simp [intoUnit]

/-- **coarsening composes**: going `a → b → c` through ever coarser units gives the same value as
going `a → c` directly (the floor of a floor is the floor), for every valid `x`, negative or not -/
theorem intoUnit_coarser_compose (a b c : U) (x : Int) (hx : x ≠ NaT) (hr : InI64 x)
    (h1 : a.mult ≤ b.mult) (h2 : b.mult ≤ c.mult) :
    ∃ y, intoUnit a b x = .ok y ∧ intoUnit b c y = intoUnit a c x := by
  obtain ⟨hy, hry⟩ := floorTo_fits hx hr h1
  refine ⟨floorTo a b x, intoUnit_coarser_total a b x hx hr h1, ?_⟩
  rw [intoUnit_coarser_total b c _ hy hry h2,
    intoUnit_coarser_total a c x hx hr (Int.le_trans h1 h2)]
  exact congrArg Res.ok (mulDiv_compose (x * a.mult) (mult_pos b) (mult_dvd h2))

/-- **bracketing**: the result denotes the unit interval containing the instant of `x`:
`ns(b)·y ≤ ns(a)·x < ns(b)·(y+1)` -/
theorem same_instant (a b : U) (x y : Int) (hx : x ≠ NaT) (hr : InI64 x)
    (h : intoUnit a b x = .ok y) :
    b.mult * y ≤ a.mult * x ∧ a.mult * x < b.mult * (y + 1) := by
  obtain ⟨rfl, _⟩ := intoUnit_ok hx hr h
  exact mulDiv_bracket a.mult x (mult_pos b)

/-- the bracket determines the result: any `y` in it is the value returned -/
theorem same_instant_unique (a b : U) (x y z : Int)
    (hy : b.mult * y ≤ a.mult * x ∧ a.mult * x < b.mult * (y + 1))
    (hz : b.mult * z ≤ a.mult * x ∧ a.mult * x < b.mult * (z + 1)) : y = z :=
  bracket_unique (mult_pos b) hy hz

/-- **finer and back is the identity**: if `b` is at least as fine as `a` and the conversion
succeeds, converting the result back gives `x` again -/
theorem finer_then_back (a b : U) (x y : Int) (hx : x ≠ NaT) (hr : InI64 x)
    (hfiner : b.mult ≤ a.mult) (h : intoUnit a b x = .ok y) : intoUnit b a y = .ok x := by
  obtain ⟨rfl, hn, hi⟩ := intoUnit_ok hx hr h
  rw [intoUnit_closed b a _ hn hi, floorTo, floorTo,
    mulDiv_back x (mult_pos b) (mult_pos a) (mult_dvd hfiner), if_pos hr]

/-- conversion preserves the order of instants -/
theorem intoUnit_mono (a b : U) (x x' y y' : Int) (hx : x ≠ NaT) (hr : InI64 x)
    (hx' : x' ≠ NaT) (hr' : InI64 x') (hle : x ≤ x')
    (h : intoUnit a b x = .ok y) (h' : intoUnit a b x' = .ok y') : y ≤ y' := by
  obtain ⟨rfl, _⟩ := intoUnit_ok hx hr h
  obtain ⟨rfl, _⟩ := intoUnit_ok hx' hr' h'
  exact mulDiv_mono (mult_pos a) (mult_pos b) hle

/-- the model agrees with the from-scratch specification on every `i64` (NaT included):
value ↦ value, NaT ↦ NaT, panic ↦ unrepresentable (`Res.toOutcome`) -/
theorem intoUnit_eq_spec (a b : U) (x : Int) (hr : InI64 x) :
    (intoUnit a b x).toOutcome = Spec.convert a b (optOf x) := by
  by_cases hx : x = NaT
  · subst hx
    simp [intoUnit_nat, Res.toOutcome, Spec.convert, optOf]
  · rw [intoUnit_closed a b x hx hr, checked_toOutcome, if_neg (floorTo_ne_nat a b x hx hr)]
    simp only [optOf, hx, if_false, Spec.convert, unitsAt_eq, nsPer_eq_mult, floorTo]

/-! ## calendar round trips -/

/-- chrono's range constants of the model are the calendar's years −262143 … 262142 -/
theorem crRange_is_calendar : crMinNs = Spec.calMinNs ∧ crMaxNs = Spec.calMaxNs := by decide

/-- so the specification's calendar range is chrono's -/
theorem inCal_iff (t : Int) : Spec.InCal t ↔ InCr t := by
  unfold Spec.InCal InCr
  rw [crRange_is_calendar.1, crRange_is_calendar.2]

/-- `as_cr` of a valid value is its instant `x·ns(u)`, present exactly inside chrono's range -/
theorem asCr_valid (u : U) (x : Int) (hx : x ≠ NaT) :
    asCr u x = if InCr (x * u.mult) then some (x * u.mult) else none := by
  simp [asCr, isNat, hx, tryIntoCr]

/-- every valid nanosecond date-time has a calendar value (the whole `i64` range is inside chrono's) -/
theorem asCr_ns_total (x : Int) (hx : x ≠ NaT) (hr : InI64 x) : asCr .ns x = some x := by
  have : InCr x := by
    simp only [InCr, crMinNs, crMaxNs, InI64, i64Min, i64Max] at *
    omega
  rw [asCr_valid .ns x hx, U.mult, Int.mul_one, if_pos this]

/-- `From<chrono>` can only return the floor -/
theorem fromCr_ok {u : U} {t x : Int} (h : fromCr u t = .ok x) : x = t / u.mult := by
  cases u
  case ns =>
    rw [fromCr] at h
    split at h
    · rw [U.mult, Int.ediv_one]; exact (Res.ok.inj h).symm
    · cases h
  all_goals exact (Res.ok.inj h).symm

/-- `From<chrono>` succeeds on every calendar instant that the unit can represent (only the
nanosecond unit is narrower than chrono) -/
theorem fromCr_total (u : U) (t : Int) (h : u = .ns → InI64 t) : fromCr u t = .ok (t / u.mult) := by
  cases u
  case ns => rw [fromCr, if_pos (h rfl), U.mult, Int.ediv_one]
  all_goals rfl

/-- **to the calendar and back**: `From<chrono>(as_cr(x)) = x` for every valid `x` that has a calendar value -/
theorem cr_roundtrip (u : U) (x t : Int) (hx : x ≠ NaT) (hr : InI64 x)
    (h : asCr u x = some t) : fromCr u t = .ok x := by
  rw [asCr_valid u x hx] at h
  split at h
  · cases h
    rw [fromCr_total u _ (fun hu => by subst hu; rwa [U.mult, Int.mul_one]),
      Int.mul_ediv_cancel _ (Int.ne_of_gt (mult_pos u))]
  · cases h

/-- `From<chrono>` floors the instant to the unit: `ns(u)·x ≤ t < ns(u)·(x+1)` -/
theorem fromCr_floor (u : U) (t x : Int) (h : fromCr u t = .ok x) :
    u.mult * x ≤ t ∧ t < u.mult * (x + 1) := by
  have := mulDiv_bracket 1 t (mult_pos u)
  rwa [Int.mul_one, Int.one_mul, ← fromCr_ok h] at this

/-- **from the calendar and back**: for a calendar instant `t` whose floor is a valid value of the
unit, `as_cr(From<chrono>(t))` is `t` floored to the unit -/
theorem cr_roundtrip_floor (u : U) (t x : Int) (ht : InCr t) (h : fromCr u t = .ok x)
    (hx : x ≠ NaT) : asCr u x = some (t / u.mult * u.mult) := by
  cases fromCr_ok h
  have hin : InCr (t / u.mult * u.mult) := by
    cases u <;> simp only [U.mult, InCr, crMinNs, crMaxNs] at * <;> omega
  rw [asCr_valid u _ hx, if_pos hin]

/-! ## NaT is absorbed by every operator -/

/-- `DateTime ± TimeDelta` with a NaT operand on either side is NaT (whatever the other operand,
whatever chrono's month arithmetic does) -/
theorem nat_absorbs_dt_shift (am : Int → Int → Option Int) (sgn : Int) (u : U) (x : Int) (d : TD)
    (h : x = NaT ∨ d.isNat = true) : dtShift am sgn u x d = .ok NaT := by
  rcases h with h | h
  · subst h; simp [dtShift, isNat]
  · simp [dtShift, h]

/-- `Add<TimeDelta> for DateTime<U>` -/
theorem nat_absorbs_dt_add (am : Int → Int → Option Int) (u : U) (x : Int) (d : TD)
    (h : x = NaT ∨ d.isNat = true) : dtAdd am u x d = .ok NaT := nat_absorbs_dt_shift am 1 u x d h

/-- `Sub<TimeDelta> for DateTime<U>` -/
theorem nat_absorbs_dt_sub (am : Int → Int → Option Int) (u : U) (x : Int) (d : TD)
    (h : x = NaT ∨ d.isNat = true) : dtSub am u x d = .ok NaT := nat_absorbs_dt_shift am (-1) u x d h

/-- `DateTime − DateTime` with a NaT operand on either side is the NaT duration -/
theorem nat_absorbs_dt_diff (u : U) (x y : Int) (h : x = NaT ∨ y = NaT) :
    dtDiff u x y = .ok tdNaT := by
  rcases h with h | h <;> subst h <;> simp [dtDiff, isNat]

/-- `-NaT` is NaT -/
theorem nat_absorbs_td_neg (a : TD) (h : a.isNat = true) :
    ∃ r, tdNeg a = .ok r ∧ r.isNat = true := by
  exact ⟨a, by simp [tdNeg, h], h⟩

/-- `TimeDelta + TimeDelta` with a NaT operand on either side is the NaT duration -/
theorem nat_absorbs_td_add (a b : TD) (h : a.isNat = true ∨ b.isNat = true) :
    tdAdd a b = .ok tdNaT := by
  rcases h with h | h <;> simp [tdAdd, h]

/-- the same for `TimeDelta − TimeDelta` -/
theorem nat_absorbs_td_sub (a b : TD) (h : a.isNat = true ∨ b.isNat = true) :
    tdSub a b = .ok tdNaT := by
  rcases h with h | h <;> simp [tdSub, h]

/-- scaling a NaT duration by any `i32` (also by 0) is NaT -/
theorem nat_absorbs_td_mul (a : TD) (k : Int) (h : a.isNat = true) : tdMul a k = .ok tdNaT := by
  simp [tdMul, h]

/-- `Time ± TimeDelta` with a NaT operand on either side is NaT — also when the duration carries
months (no panic) or is too long for `num_nanoseconds` -/
theorem nat_absorbs_time_shift (sgn : Int) (x : Int) (d : TD) (h : x = NaT ∨ d.isNat = true) :
    timeShift sgn x d = .ok NaT := by
  rcases h with h | h
  · subst h; simp [timeShift, isNat]
  · simp [timeShift, h]

/-- `Add<TimeDelta> for Time` -/
theorem nat_absorbs_time_add (x : Int) (d : TD) (h : x = NaT ∨ d.isNat = true) :
    timeAdd x d = .ok NaT := nat_absorbs_time_shift 1 x d h

/-- `Sub<TimeDelta> for Time` -/
theorem nat_absorbs_time_sub (x : Int) (d : TD) (h : x = NaT ∨ d.isNat = true) :
    timeSub x d = .ok NaT := nat_absorbs_time_shift (-1) x d h

/-- a NaT time of day has no calendar value -/
theorem nat_time_asCr : timeAsCr NaT = none := by decide

/-! ## the model against the from-scratch specification -/

/-- `as_cr` is the specification's calendar value -/
theorem asCr_eq_spec (u : U) (x : Int) : asCr u x = Spec.toCalendar u (optOf x) := by
  by_cases hx : x = NaT
  · subst hx; simp [nat_asCr, Spec.toCalendar, optOf]
  · simp only [optOf, hx, if_false, Spec.toCalendar, nsPer_eq_mult, asCr_valid u x hx, inCal_iff]

/-- away from the nanosecond unit the floor of a calendar instant always fits -/
theorem inI64_of_inCr {u : U} {t : Int} (hu : u ≠ .ns) (ht : InCr t) : InI64 (t / u.mult) := by
  cases u <;> first
    | exact absurd rfl hu
    | (simp only [U.mult, InCr, crMinNs, crMaxNs, InI64, i64Min, i64Max] at *; omega)

/-- `From<chrono>` against the specification on every calendar instant: the floor to the unit where
that is a valid value, NaT where it is the sentinel (the instant `-2^63 ns`), a panic otherwise -/
theorem fromCr_outcome (u : U) (t : Int) (ht : InCr t) :
    (fromCr u t).toOutcome =
      match Spec.ofCalendar u t with
      | .val r => .val r
      | _ => if Spec.unitsAt u t = -2 ^ 63 then .nat else .unrepresentable := by
  have e : fromCr u t = if InI64 (t / u.mult) then .ok (t / u.mult) else .panic := by
    by_cases hu : u = .ns
    · subst hu; rw [U.mult, Int.ediv_one]; rfl
    · rw [if_pos (inI64_of_inCr hu ht), fromCr_total u t (fun h => absurd h hu)]
  rw [e, checked_toOutcome, Spec.ofCalendar, unitsAt_eq]
  generalize t / u.mult = v
  by_cases hs : v = NaT
  · subst hs; decide
  · have hs' : v ≠ -2 ^ 63 := hs
    rw [if_neg hs, if_neg hs', Spec.mk64]
    split <;> rfl

/-- `DateTime ± TimeDelta` (month-free duration, or any NaT operand) is instant arithmetic floored
to the unit -/
theorem dtShift_eq_spec (am : Int → Int → Option Int) (sgn : Int) (u : U) (x : Int) (d : TD)
    (hm : x = NaT ∨ d.isNat = true ∨ d.months = 0) :
    (dtShift am sgn u x d).toOutcome = Spec.shift sgn u (optOf x) d.toDur := by
  by_cases hx : x = NaT
  · subst hx; simp [nat_absorbs_dt_shift, optOf, Spec.shift, Res.toOutcome]
  · by_cases hd : d.isNat = true
    · simp [nat_absorbs_dt_shift, hd, optOf, hx, TD.toDur, Spec.shift, Res.toOutcome]
    · have hm0 : d.months = 0 := (hm.resolve_left hx).resolve_left hd
      simp only [dtShift, isNat_of_ne hx, hd, optOf, hx, TD.toDur, Spec.shift, hm0, asCr_valid u x hx, nsPer_eq_mult,
        inCal_iff, if_false, Bool.not_false, Bool.and_self, if_true, ne_eq, not_true_eq_false,
        Bool.false_eq_true]
      by_cases h1 : InCr (x * u.mult)
      · by_cases h2 : InCr (x * u.mult + sgn * d.inner)
        · simp only [h1, h2, and_self, if_true, crShift]
          exact fromCr_outcome u _ h2
        · simp [h1, h2, crShift, Res.toOutcome]
      · simp [h1, Res.toOutcome]

/-- `DateTime − DateTime` is the difference of the instants -/
theorem dtDiff_eq_spec (u : U) (x y : Int) :
    (dtDiff u x y).toOutcomeTd = Spec.diff u (optOf x) (optOf y) := by
  by_cases hx : x = NaT
  · subst hx; simp [dtDiff, isNat, optOf, Spec.diff, Res.toOutcomeTd, tdNaT_isNat]
  · by_cases hy : y = NaT
    · subst hy; simp [dtDiff, isNat, optOf, hx, Spec.diff, Res.toOutcomeTd, tdNaT_isNat]
    · simp only [dtDiff, isNat_of_ne hx, isNat_of_ne hy, optOf, hx, hy, Spec.diff, asCr_valid u x hx, asCr_valid u y hy,
        nsPer_eq_mult, inCal_iff, if_false, Bool.not_false, Bool.and_self, if_true]
      -- both in range: `x * m - y * m = (x - y) * m`, and months `0` is not the sentinel
      by_cases h1 : InCr (x * u.mult) <;> by_cases h2 : InCr (y * u.mult) <;>
        simp [h1, h2, Res.toOutcomeTd, TD.isNat, i32Min, Int.sub_mul]

/-- `Add for TimeDelta` equals `Spec.add` for all operands (NaT ↦ NaT, overflow ↦ unrepresentable) -/
theorem tdAdd_eq_spec (a b : TD) : (tdAdd a b).toOutcomeTd = Spec.add a.toDur b.toDur := by
  by_cases ha : a.isNat = true
  · simp [tdAdd, ha, TD.toDur, Spec.add, Res.toOutcomeTd, tdNaT_isNat]
  · by_cases hb : b.isNat = true
    · simp [tdAdd, ha, hb, TD.toDur, Spec.add, Res.toOutcomeTd, tdNaT_isNat]
    · simp [tdAdd, ha, hb, TD.toDur, Spec.add, tdMk_eq_spec]

/-- the same for `Sub for TimeDelta` and `Spec.sub` -/
theorem tdSub_eq_spec (a b : TD) : (tdSub a b).toOutcomeTd = Spec.sub a.toDur b.toDur := by
  by_cases ha : a.isNat = true
  · simp [tdSub, ha, TD.toDur, Spec.sub, Res.toOutcomeTd, tdNaT_isNat]
  · by_cases hb : b.isNat = true
    · simp [tdSub, ha, hb, TD.toDur, Spec.sub, Res.toOutcomeTd, tdNaT_isNat]
    · simp [tdSub, ha, hb, TD.toDur, Spec.sub, tdMk_eq_spec]

/-- `Mul<i32> for TimeDelta` equals `Spec.scale` for every duration and every factor -/
theorem tdMul_eq_spec (a : TD) (k : Int) : (tdMul a k).toOutcomeTd = Spec.scale a.toDur k := by
  by_cases ha : a.isNat = true
  · simp [tdMul, ha, TD.toDur, Spec.scale, Res.toOutcomeTd, tdNaT_isNat]
  · simp [tdMul, ha, TD.toDur, Spec.scale, tdMk_eq_spec]

/-- negation (months are an `i32`) -/
theorem tdNeg_eq_spec (a : TD) (h32 : InI32 a.months) : (tdNeg a).toOutcomeTd = Spec.neg a.toDur := by
  by_cases ha : a.isNat = true
  · simp [tdNeg, ha, TD.toDur, Spec.neg, Res.toOutcomeTd]
  · have hne : ¬ (-a.months = i32Min) := by
      simp only [InI32, i32Min, i32Max] at *; omega
    have ha' : ¬ (a.months = i32Min) := by simpa [TD.isNat] using ha
    simp [tdNeg, TD.toDur, Spec.neg, Res.toOutcomeTd, TD.isNat, ha', hne]

/-- `Time ± TimeDelta` equals its specification for every time of day and every duration -/
theorem timeShift_eq_spec (sgn x : Int) (d : TD) :
    (timeShift sgn x d).toOutcome = Spec.timeShift sgn (optOf x) d.toDur := by
  by_cases hx : x = NaT
  · subst hx; simp [nat_absorbs_time_shift, Spec.timeShift, Res.toOutcome, optOf]
  · by_cases hd : d.isNat = true
    · simp [nat_absorbs_time_shift, hd, hx, Spec.timeShift, Res.toOutcome, optOf, TD.toDur]
    · have e1 : (-2 ^ 63 ≤ d.inner ∧ d.inner < 2 ^ 63) ↔ InI64 d.inner := by
        simp only [InI64, i64Min, i64Max]; omega
      have e2 : (x + sgn * d.inner = -2 ^ 63) ↔ (x + sgn * d.inner = NaT) := by
        simp only [NaT, i64Min]; omega
      simp only [optOf, TD.toDur, hx, hd, if_false, timeShift, isNat_of_ne hx, Bool.not_false, Bool.and_self, if_true,
        Bool.false_eq_true, Spec.timeShift, e1, e2]
      by_cases hm : d.months = 0
      · by_cases hn : InI64 d.inner
        · simp only [hm, hn, ne_eq, not_true_eq_false, if_true, if_false]
          exact checked_toOutcome _
        · simp [hm, hn, Res.toOutcome]
      · simp [hm, Res.toOutcome]

/-! ## the pinned tree violated the property (F5, F8) -/

/-- F5: before the repair a NaT nanosecond date-time became the valid microsecond date
`-9223372036854775` (year −290 308), and converting NaT to a finer unit overflowed -/
theorem intoUnit_nat_pinned_wrong :
    intoUnitPinned .ns .us NaT = .ok (-9223372036854775) ∧ (-9223372036854775 : Int) ≠ NaT
    ∧ intoUnitPinned .s .ns NaT = .panic := by decide

/-- F5: before the repair `-1 ns` (1969-12-31 23:59:59.999999999) became `0 µs` — the instant moved
toward the future; the repaired code and chrono give `-1` -/
theorem intoUnit_trunc_pinned_wrong :
    intoUnitPinned .ns .us (-1) = .ok 0 ∧ floorTo .ns .us (-1) = -1
    ∧ intoUnit .ns .us (-1) = .ok (-1) := by decide

/-- F8: before the repair `Time::nat() + 1h` was an ordinary value and `Time::nat() − 1h` overflowed -/
theorem time_shift_pinned_wrong :
    timeShiftPinned 1 NaT ⟨0, 3600000000000⟩ = .ok (-9223368436854775808)
    ∧ timeShiftPinned (-1) NaT ⟨0, 3600000000000⟩ = .panic
    ∧ timeShift 1 NaT ⟨0, 3600000000000⟩ = .ok NaT := by decide

/-! ## non-vacuity: the hypotheses are satisfiable on concrete, non-trivial inputs -/

/-- pre-1970, not divisible by the ratio, ms → s -/
example : intoUnit .ms .s (-1001) = .ok (-2) ∧ (-1001 : Int) ≠ NaT ∧ InI64 (-1001) := by decide
/-- widening overflow is a panic, one below still fits -/
example : intoUnit .s .ns 9223372037 = .panic ∧ intoUnit .s .ns 9223372036 = .ok 9223372036000000000 := by decide
/-- finer and back on a negative value -/
example : intoUnit .s .us (-7) = .ok (-7000000) ∧ intoUnit .us .s (-7000000) = .ok (-7) := by decide
/-- calendar round trip before the epoch: −1 ms is 1969-12-31T23:59:59.999 -/
example : asCr .ms (-1) = some (-1000000) ∧ fromCr .ms (-1000000) = .ok (-1)
    ∧ Spec.fieldsAt (-1000000) = (1969, 12, 31, 23, 59, 59) := by decide
/-- outside chrono's range `as_cr` is `None` although the value is not NaT -/
example : asCr .s 8210266876800 = none ∧ asCr .s 8210266876799 = some 8210266876799000000000 := by decide
/-- operators on valid operands do compute (the absorption theorems are not about a constant function) -/
example : dtShift (fun _ _ => none) 1 .s 5 ⟨0, -1⟩ = .ok 4 ∧ dtDiff .ms 5 (-7) = .ok ⟨0, 12000000⟩
    ∧ tdAdd ⟨3, 5⟩ ⟨-1, 7⟩ = .ok ⟨2, 12⟩ ∧ tdMul ⟨3, 5⟩ (-2) = .ok ⟨-6, -10⟩
    ∧ timeAdd 43200000000000 ⟨0, 5400000000000⟩ = .ok 48600000000000 := by decide
/-- a NaT duration may carry any length -/
example : (⟨i32Min, 12345⟩ : TD).isNat = true ∧ tdNeg ⟨i32Min, 12345⟩ = .ok ⟨i32Min, 12345⟩ := by decide

/-! ## the calendar of the specification is consistent

The two round trips are `Spec.daysFromCivil_civilFromDays` and `Spec.civilFromDays_daysFromCivil` of
`Lemmas/C16Cal`, stated here as theorems of the property. -/

/-- **calendar round trip.** The proleptic Gregorian date the specification assigns to a day count
maps back to that day count — for every integer day count. (The only non-linear fact, that the
year-of-era estimate is right on the first and last day of each of the 400 years of an era, is
checked by kernel evaluation in `Lemmas/C16Cal`; monotonicity carries it to the days between.) -/
theorem calendar_roundtrip (z : Int) :
    Spec.daysFromCivil (Spec.civilFromDays z).1 (Spec.civilFromDays z).2.1 (Spec.civilFromDays z).2.2 = z :=
  Spec.daysFromCivil_civilFromDays z

/-- distinct day counts have distinct dates -/
theorem civilFromDays_injective (a b : Int) (h : Spec.civilFromDays a = Spec.civilFromDays b) : a = b := by
  have ha := calendar_roundtrip a
  have hb := calendar_roundtrip b
  rw [h] at ha
  exact ha.symm.trans hb

/-- **calendar round trip, dates**: the day count the specification assigns to a calendar date
(`1 ≤ m ≤ 12`, `1 ≤ d ≤` days of that month, leap years by the Gregorian rule; any year) maps back
to that date. Together with `calendar_roundtrip`: day counts and calendar dates are in bijection. -/
theorem calendar_roundtrip_date (y m d : Int) (hv : Spec.ValidDate y m d) :
    Spec.civilFromDays (Spec.daysFromCivil y m d) = (y, m, d) :=
  Spec.civilFromDays_daysFromCivil y m d hv

/-- distinct calendar dates have distinct day counts -/
theorem daysFromCivil_injective (y m d y' m' d' : Int) (hv : Spec.ValidDate y m d) (hv' : Spec.ValidDate y' m' d')
    (h : Spec.daysFromCivil y m d = Spec.daysFromCivil y' m' d') : (y, m, d) = (y', m', d') := by
  rw [← calendar_roundtrip_date y m d hv, ← calendar_roundtrip_date y' m' d' hv', h]

end Tv.C16
