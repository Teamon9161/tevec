import Tv.Thm.C11GenA
import Tv.Lemmas.GenSim
import Tv.Thm.C11
/-!
# C11 — the aggregations regenerated from tea-core/src/agg.rs are the model's aggregations

`Tv.GenAgg.<fn>.run` is written by translator/aggs.py from the Rust source of the traits
`AggValidBasic` and `AggBasic` (agg.rs) and of tea-agg/src/lib.rs on every run (function body in source order; the iteration calls `vapply_n`,
`vfold_n`, `vfold`, `for_each`, `zip().for_each` are the combinators of `GenPrelude.lean`, a
hand-written reading of iter_traits.rs, applied to the translated closure).  This file and
`C11GenA.lean` (the moment aggregations, where the two proof steps are explained) prove that each
regenerated function agrees with the hand-written model (`*_agree` / `*_eq`) and, through the C11
theorems, with the textbook definition over the non-null elements (`*_spec`).
`vskew` (zero test on a `sqrt` expression) and `vcorr_pearson` (closed form rewritten under the
root sign in the model) are proved up to the mask / branch structure; their values are compared
by the correspondence run.  Covered: the null-skipping trait (`vsum` … `vcorr_pearson`,
`count_valid`, `vfirst`, `vlast`, `vcount_value`, `vargmax`, `vargmin`, `vany`, `vall`), the plain
trait `AggBasic`, and `vkurt` and the masked sums of tea-agg/src/lib.rs. `vpercentile_of`, also in
`GenAgg.functions`, is C12's (Thm/C12Gen.lean, Lemmas/C12Pct.lean).
-/
namespace Tv.C11Gen
open Tv Tv.GenSim Tv.C11

theorem vmax_eq (sqrt : Rat → Rat) (xs : List (Option Rat)) : GenAgg.vmax.run sqrt xs = C11.vmax xs :=
  gen_vfold_eq _ none xs

theorem vmin_eq (sqrt : Rat → Rat) (xs : List (Option Rat)) : GenAgg.vmin.run sqrt xs = C11.vmin xs :=
  gen_vfold_eq _ none xs

theorem count_none_eq (sqrt : Rat → Rat) (xs : List (Option Rat)) : GenAgg.count_none.run sqrt xs = C11.countNone xs :=
  rfl

/-- a `zip … for_each` closure accumulating `n, Σa, Σb, Σab` over the pairwise-complete pairs -/
theorem fold_pairs4 (L : Nat × Rat × Rat × Rat → Option Rat × Option Rat → Nat × Rat × Rat × Rat)
    (hL : ∀ n a b c va vb, L (n, a, b, c) (va, vb) =
      match va, vb with
      | some x, some y => (n + 1, a + x, b + y, c + x * y)
      | _, _ => (n, a, b, c))
    (l : List (Option Rat × Option Rat)) :
    List.foldl L (0, 0, 0, 0) l =
      ((l.foldl Pair.step Pair.zero).n, (l.foldl Pair.step Pair.zero).sa, (l.foldl Pair.step Pair.zero).sb,
        (l.foldl Pair.step Pair.zero).sab) :=
  foldl_proj (fun s : Pair => (s.n, s.sa, s.sb, s.sab)) Pair.step Pair.zero rfl fun s p => by
    obtain ⟨va, vb⟩ := p
    rw [hL]
    cases va <;> cases vb <;> rfl

theorem vcov_agree (sqrt : Rat → Rat) (xs ys : List (Option Rat)) (mp : Nat) :
    Agree sqrt (GenAgg.vcov.run sqrt xs ys mp) (C11.vcov mp xs ys) := by
  unfold GenAgg.vcov.run
  dsimp only
  rw [fold_pairs4 _ (fun n a b c va vb => by cases va <;> cases vb <;> rfl)]
  exact ite_rel _ decide_eq_true_iff (fun _ => rfl) (fun _ => rfl)

theorem vcorr_agree (sqrt : Rat → Rat) (xs ys : List (Option Rat)) (mp : Nat) :
    AgreeW (GenAgg.vcorr_pearson.run sqrt xs ys mp) (C11.vcorr mp xs ys) := by
  unfold GenAgg.vcorr_pearson.run C11.vcorr C11.pairs
  dsimp only
  rw [foldl_proj (fun s : Pair => (s.n, s.sa, s.saa, s.sb, s.sbb, s.sab)) Pair.step Pair.zero (by rfl)
    (by rintro s ⟨_ | a, _ | b⟩ <;> rfl)]
  refine ite_rel _ decide_eq_true_iff (fun _ => ?_) (fun _ => rfl)
  refine ite_rel _ ?_ (fun _ => rfl) (fun _ => trivial)
  rw [Bool.and_eq_true, decide_eq_true_iff, decide_eq_true_iff, sq, sq, eps_eq]

/-! ## the regenerated aggregations against the textbook definitions (`Spec`, via the C11 theorems) -/

theorem vsum_spec (sqrt : Rat → Rat) (xs : List (Option Rat)) :
    Agree sqrt (GenAgg.vsum.run sqrt xs) (Spec.vsum xs) := by
  rw [← C11.vsum_exact]; exact vsum_agree sqrt xs
theorem vmean_spec (sqrt : Rat → Rat) (xs : List (Option Rat)) :
    Agree sqrt (GenAgg.vmean.run sqrt xs) (Spec.vmean xs) := by
  rw [← C11.vmean_exact]; exact vmean_agree sqrt xs
theorem vmean_var_spec (sqrt : Rat → Rat) (xs : List (Option Rat)) (mp : Nat) :
    Agree2 sqrt (GenAgg.vmean_var.run sqrt xs mp) (Spec.vmeanVar mp xs) := by
  rw [← C11.vmean_var_exact]; exact vmean_var_agree sqrt xs mp
theorem vvar_spec (sqrt : Rat → Rat) (xs : List (Option Rat)) (mp : Nat) :
    Agree sqrt (GenAgg.vvar.run sqrt xs mp) (Spec.vvar mp xs) := by
  rw [← C11.vvar_exact]; exact vvar_agree sqrt xs mp
theorem vstd_spec (sqrt : Rat → Rat) (xs : List (Option Rat)) (mp : Nat) :
    Agree sqrt (GenAgg.vstd.run sqrt xs mp) (Spec.vstd mp xs) := by
  rw [← C11.vstd_exact]; exact vstd_agree sqrt xs mp
/-- `vskew` is NaN exactly below `max(min_periods, 3)` valid elements -/
theorem vskew_nan_iff (sqrt : Rat → Rat) (xs : List (Option Rat)) (mp : Nat) :
    GenAgg.vskew.run sqrt xs mp = none ↔ (valid xs).length < max mp 3 := by
  rw [← C11.vskew_null_iff]; exact (vskew_mask sqrt xs mp).symm
theorem vmax_spec (sqrt : Rat → Rat) (xs : List (Option Rat)) : GenAgg.vmax.run sqrt xs = Spec.vmax xs := by
  rw [vmax_eq, C11.vmax_exact]
theorem vmin_spec (sqrt : Rat → Rat) (xs : List (Option Rat)) : GenAgg.vmin.run sqrt xs = Spec.vmin xs := by
  rw [vmin_eq, C11.vmin_exact]
theorem count_none_spec (sqrt : Rat → Rat) (xs : List (Option Rat)) :
    GenAgg.count_none.run sqrt xs = Spec.countNone xs := by
  rw [count_none_eq, C11.count_none_exact]
theorem vcov_spec (sqrt : Rat → Rat) (xs ys : List (Option Rat)) (mp : Nat) :
    Agree sqrt (GenAgg.vcov.run sqrt xs ys mp) (Spec.vcov mp xs ys) := by
  rw [← C11.vcov_exact]; exact vcov_agree sqrt xs ys mp
theorem vcorr_spec (sqrt : Rat → Rat) (xs ys : List (Option Rat)) (mp : Nat) :
    AgreeW (GenAgg.vcorr_pearson.run sqrt xs ys mp) (Spec.vcorr mp xs ys) := by
  rw [← C11.vcorr_exact]; exact vcorr_agree sqrt xs ys mp

/-! ## counts, first / last valid, arg-extrema (agg.rs) and `vkurt` (tea-agg/src/lib.rs) -/

theorem count_valid_eq (sqrt : Rat → Rat) (xs : List (Option Rat)) :
    GenAgg.count_valid.run sqrt xs = C11.countValid xs :=
  congrArg Prod.fst (gen_vfoldN_eq _ () xs)

/-- the deprecated alias `count` -/
theorem count_eq (sqrt : Rat → Rat) (xs : List (Option Rat)) :
    GenAgg.count.run sqrt xs = C11.countValid xs :=
  congrArg Prod.fst (gen_vfoldN_eq _ () xs)

theorem vfirst_eq (sqrt : Rat → Rat) (xs : List (Option Rat)) :
    GenAgg.vfirst.run sqrt xs = C11.vfirst xs := rfl

theorem vlast_eq (sqrt : Rat → Rat) (xs : List (Option Rat)) :
    GenAgg.vlast.run sqrt xs = C11.vlast xs := rfl

theorem vcount_value_eq (sqrt : Rat → Rat) (xs : List (Option Rat)) (value : Option Rat) :
    GenAgg.vcount_value.run sqrt xs value = C11.vcountValue value xs := by
  cases value with
  | none => rfl
  | some c => simp only [GenAgg.vcount_value.run, C11.vcountValue, gen_vfold_eq, decide_eq_true_eq]

theorem cmpRat_eq (a b : Rat) : Gen.cmpRat a b = compare a b := by
  rw [LinearOrder.compare_eq_compareOfLessAndEq]; rfl

/-- a `for_each` closure keeping `(best, best index, current index)` -/
theorem fold_arg (step : ArgSt → Option Rat → ArgSt)
    (F : Option Rat × Option Nat × Nat → Option Rat → Option Rat × Option Nat × Nat)
    (hF : ∀ a b c v, F (a, b, c) v = ((step ⟨a, b, c⟩ v).best, (step ⟨a, b, c⟩ v).idx, (step ⟨a, b, c⟩ v).cur))
    (xs : List (Option Rat)) (s : ArgSt) :
    List.foldl F (s.best, s.idx, s.cur) xs =
      ((xs.foldl step s).best, (xs.foldl step s).idx, (xs.foldl step s).cur) :=
  List.foldl_hom (fun s : ArgSt => (s.best, s.idx, s.cur)) fun s v => hF s.best s.idx s.cur v

theorem vargmax_eq (sqrt : Rat → Rat) (xs : List (Option Rat)) :
    GenAgg.vargmax.run sqrt xs = C11.vargmax xs := by
  unfold GenAgg.vargmax.run C11.vargmax
  dsimp only
  rw [fold_arg vargmaxStep _ (by
    intro a b c v
    cases v with
    | none => rfl
    | some x =>
      cases a with
      | none => rfl
      | some m =>
        simp only [vargmaxStep, cmpRat_eq, compare_gt_iff_gt, decide_eq_true_eq]
        split <;> rfl) xs ⟨none, none, 0⟩]

theorem vargmin_eq (sqrt : Rat → Rat) (xs : List (Option Rat)) :
    GenAgg.vargmin.run sqrt xs = C11.vargmin xs := by
  unfold GenAgg.vargmin.run C11.vargmin
  dsimp only
  rw [fold_arg vargminStep _ (by
    intro a b c v
    cases v with
    | none => rfl
    | some x =>
      cases a with
      | none => rfl
      | some m =>
        simp only [vargminStep, cmpRat_eq, compare_lt_iff_lt, decide_eq_true_eq]
        split <;> rfl) xs ⟨none, none, 0⟩]

theorem vapplyN_pow4 (f : Rat × Rat × Rat × Rat → Rat → Rat × Rat × Rat × Rat)
    (hf : ∀ a b c d v, f (a, b, c, d) v = (a + v, b + v * v, c + v * v * v, d + (v * v) * (v * v)))
    (xs : List (Option Rat)) :
    Gen.vapplyN f (0, 0, 0, 0) xs = (((pows xs).s1, (pows xs).s2, (pows xs).s3, (pows xs).s4), (pows xs).n) :=
  foldl_proj (fun s : Pow => ((s.s1, s.s2, s.s3, s.s4), s.n)) Pow.step Pow.zero rfl fun s v => by
    cases v with
    | none => rfl
    | some x => exact congrArg (·, s.n + 1) (hf _ _ _ _ x)

/-- `vkurt` (tea-agg/src/lib.rs) regenerated = the model's `vkurt`, value for value -/
theorem vkurt_agree (sqrt : Rat → Rat) (xs : List (Option Rat)) (mp : Nat) :
    Agree sqrt (GenAgg.vkurt.run sqrt xs mp) (C11.vkurt mp xs) := by
  unfold GenAgg.vkurt.run C11.vkurt
  dsimp only
  rw [vapplyN_pow4 _ (fun a b c d v => rfl) xs]
  generalize pows xs = s
  dsimp only
  rw [pvar_eq, eps_eq]
  refine ite_rel _ decide_eq_true_iff (fun _ => rfl) fun _ => ?_
  by_cases h2 : s.n ≥ 4
  · rw [if_pos (decide_eq_true h2), if_pos h2]
    dsimp only
    by_cases h3 : s.pvar ≤ EPS
    · rw [if_pos (decide_eq_true h3), if_pos h3]
      exact if_neg (by simp)
    · rw [if_neg (mt of_decide_eq_true h3), if_neg h3]
      simp only [sq]
      exact ite_rel _ decide_eq_true_iff (fun _ => rfl) fun h => congrArg some (not_not.mp h)
  · rw [if_neg (mt of_decide_eq_true h2), if_neg h2]; rfl

theorem vkurt_spec (sqrt : Rat → Rat) (xs : List (Option Rat)) (mp : Nat) :
    Agree sqrt (GenAgg.vkurt.run sqrt xs mp) (Spec.vkurt mp xs) := by
  rw [← C11.vkurt_exact]; exact vkurt_agree sqrt xs mp
theorem count_valid_spec (sqrt : Rat → Rat) (xs : List (Option Rat)) :
    GenAgg.count_valid.run sqrt xs = Spec.countValid xs := by
  rw [count_valid_eq, C11.count_valid_exact]
theorem vfirst_spec (sqrt : Rat → Rat) (xs : List (Option Rat)) :
    GenAgg.vfirst.run sqrt xs = (Spec.firstValid xs).map some := by
  rw [vfirst_eq, C11.vfirst_exact]
theorem vlast_spec (sqrt : Rat → Rat) (xs : List (Option Rat)) :
    GenAgg.vlast.run sqrt xs = (Spec.lastValid xs).map some := by
  rw [vlast_eq, C11.vlast_exact]
theorem vcount_value_spec (sqrt : Rat → Rat) (xs : List (Option Rat)) (value : Option Rat) :
    GenAgg.vcount_value.run sqrt xs value = Spec.countValue value xs := by
  rw [vcount_value_eq, C11.vcount_value_exact]
theorem vargmax_spec (sqrt : Rat → Rat) (xs : List (Option Rat)) : GenAgg.vargmax.run sqrt xs = Spec.vargmax xs := by
  rw [vargmax_eq, C11.vargmax_exact]
theorem vargmin_spec (sqrt : Rat → Rat) (xs : List (Option Rat)) : GenAgg.vargmin.run sqrt xs = Spec.vargmin xs := by
  rw [vargmin_eq, C11.vargmin_exact]

/-- all eighteen functions were found and translated (an unparsed one has no `run`, which breaks
the theorems above; one that disappears breaks this) -/
theorem functions_present :
    ∀ n ∈ ["vsum", "vmean", "vmean_var", "vvar", "vstd", "vskew", "vmax", "vmin", "count_none",
      "vcov", "vcorr_pearson", "count_valid", "vfirst", "vlast", "vcount_value", "vargmax", "vargmin", "vkurt"],
      n ∈ GenAgg.functions :=
  -- the list is the table without `count` (index 17), cut after `vkurt`; comparing strings is dear
  fun _ h => List.mem_of_mem_eraseIdx (l := GenAgg.functions) (i := 17) (List.mem_of_mem_take (i := 18) h)

/-! ## the plain trait `AggBasic` (null-free items), regenerated -/

theorem plain_count_value_eq (sqrt : Rat → Rat) (xs : List Rat) (v : Rat) :
    GenAgg.plain.count_value.run sqrt xs v = C11.countValueP v xs := by
  simp only [GenAgg.plain.count_value.run, C11.countValueP, decide_eq_true_eq]

theorem plain_first_eq (sqrt : Rat → Rat) (xs : List Rat) : GenAgg.plain.first.run sqrt xs = C11.firstP xs := rfl
theorem plain_last_eq (sqrt : Rat → Rat) (xs : List Rat) : GenAgg.plain.last.run sqrt xs = C11.lastP xs := rfl

theorem plain_n_sum_agree (sqrt : Rat → Rat) (xs : List Rat) :
    (GenAgg.plain.n_sum.run sqrt xs).1 = (C11.nSumP xs).1 ∧
    Agree sqrt (GenAgg.plain.n_sum.run sqrt xs).2 (C11.nSumP xs).2 :=
  ite_rel (fun (o : Nat × Option Rat) (t : Nat × Out) => o.1 = t.1 ∧ Agree sqrt o.2 t.2) decide_eq_true_iff
    (fun _ => ⟨rfl, rfl⟩) (fun _ => ⟨rfl, rfl⟩)

theorem plain_sum_agree (sqrt : Rat → Rat) (xs : List Rat) :
    Agree sqrt (GenAgg.plain.sum.run sqrt xs) (C11.sumP xs) := (plain_n_sum_agree sqrt xs).2

/-- both sides are a function of the guarded `n_sum` pair -/
theorem plain_mean_agree (sqrt : Rat → Rat) (xs : List Rat) :
    Agree sqrt (GenAgg.plain.mean.run sqrt xs) (C11.meanP xs) :=
  ite_rel (fun (o : Nat × Option Rat) (t : Nat × Out) => Agree sqrt (o.2.map (· / (o.1 : Rat))) (match t with
    | (n, .val s) => .val (s / (n : Rat))
    | (_, o) => o)) decide_eq_true_iff (fun _ => rfl) (fun _ => rfl)

/-- the prelude's `max_with` / `min_with` are the model's (`C11.maxWith_eq` / `C11.minWith_eq`, hidden by
these two inside this namespace, say what the model's are) -/
theorem maxWith_eq (a b : Rat) : Gen.maxWith a b = C11.maxWith a b := rfl
theorem minWith_eq (a b : Rat) : Gen.minWith a b = C11.minWith a b := rfl

theorem plain_max_eq (sqrt : Rat → Rat) (xs : List Rat) : GenAgg.plain.max.run sqrt xs = C11.maxP xs := rfl

theorem plain_min_eq (sqrt : Rat → Rat) (xs : List Rat) : GenAgg.plain.min.run sqrt xs = C11.minP xs := rfl

theorem plain_argmax_eq (sqrt : Rat → Rat) (xs : List Rat) :
    GenAgg.plain.argmax.run sqrt xs = C11.argmaxP xs := by
  unfold GenAgg.plain.argmax.run C11.argmaxP
  dsimp only
  rw [List.foldl_hom (fun s : ArgSt => (s.best, s.idx, s.cur)) (g₁ := argmaxStepP) (init := ⟨none, none, 0⟩) (by
    rintro ⟨a, b, c⟩ x
    cases a with
    | none => rfl
    | some m =>
      simp only [argmaxStepP, cmpRat_eq, compare_gt_iff_gt, decide_eq_true_eq]
      split <;> rfl)]

theorem plain_argmin_eq (sqrt : Rat → Rat) (xs : List Rat) :
    GenAgg.plain.argmin.run sqrt xs = C11.argminP xs := by
  unfold GenAgg.plain.argmin.run C11.argminP
  dsimp only
  rw [List.foldl_hom (fun s : ArgSt => (s.best, s.idx, s.cur)) (g₁ := argminStepP) (init := ⟨none, none, 0⟩) (by
    rintro ⟨a, b, c⟩ x
    cases a with
    | none => rfl
    | some m =>
      simp only [argminStepP, cmpRat_eq, compare_lt_iff_lt, decide_eq_true_eq]
      split <;> rfl)]

theorem plain_functions_present :
    ∀ n ∈ ["count_value", "first", "last", "n_sum", "sum", "mean", "max", "min", "argmax", "argmin", "any", "all"],
      n ∈ GenAgg.plain.functions :=
  fun _ h => h

/-! ## boolean elements: `vany`, `vall` (`AggValidBasic`), `any`, `all` (`AggBasic`), regenerated -/

theorem vfoldB_eq {σ : Type} (f : σ → Bool → σ) (init : σ) (xs : List (Option Bool)) :
    Gen.vfoldB f init xs = C11.vfold f init xs := by
  unfold Gen.vfoldB C11.vfold
  congr 1
  funext acc v
  cases v <;> rfl

theorem vany_eq (sqrt : Rat → Rat) (xs : List (Option Bool)) : GenAgg.vany.run sqrt xs = C11.vany xs :=
  vfoldB_eq _ false xs

theorem vall_eq (sqrt : Rat → Rat) (xs : List (Option Bool)) : GenAgg.vall.run sqrt xs = C11.vall xs :=
  vfoldB_eq _ true xs

/-- the regenerated `vany` is "some non-null element is true" -/
theorem vany_spec (sqrt : Rat → Rat) (xs : List (Option Bool)) : GenAgg.vany.run sqrt xs = C11.Spec.anyValid xs := by
  rw [vany_eq, C11.vany_exact]

/-- the regenerated `vall` is "no non-null element is false" -/
theorem vall_spec (sqrt : Rat → Rat) (xs : List (Option Bool)) : GenAgg.vall.run sqrt xs = C11.Spec.allValid xs := by
  rw [vall_eq, C11.vall_exact]

theorem plain_any_eq (sqrt : Rat → Rat) (xs : List Bool) : GenAgg.plain.any.run sqrt xs = C11.anyP xs := rfl

theorem plain_all_eq (sqrt : Rat → Rat) (xs : List Bool) : GenAgg.plain.all.run sqrt xs = C11.allP xs := rfl

/-- the last two of the 25 entries of the table -/
theorem bool_functions_present : ∀ n ∈ ["vany", "vall"], n ∈ GenAgg.functions :=
  fun _ h => List.mem_of_mem_drop (i := 23) h

/-! ## the masked aggregations of tea-agg (`n_vsum_filter`, `n_sum_filter`, `vmean_filter`), regenerated -/

theorem n_vsum_filter_eq (sqrt : Rat → Rat) (xs : List (Option Rat)) (mask : List (Option Bool)) :
    GenAgg.n_vsum_filter.run sqrt xs mask = C11.nVsumFilter xs mask := by
  unfold GenAgg.n_vsum_filter.run C11.nVsumFilter
  rw [gen_vfoldN_eq]
  congr 2
  funext ⟨v, f⟩
  cases f with
  | none => rfl
  | some b => cases b <;> rfl

theorem n_sum_filter_agree (sqrt : Rat → Rat) (xs : List (Option Rat)) (mask : List (Option Bool)) :
    Agree sqrt (GenAgg.n_sum_filter.run sqrt xs mask) (C11.nSumFilter xs mask) := by
  rw [GenAgg.n_sum_filter.run, n_vsum_filter_eq]
  exact ite_rel _ decide_eq_true_iff (fun _ => rfl) (fun _ => rfl)

theorem vmean_filter_agree (sqrt : Rat → Rat) (xs : List (Option Rat)) (mask : List (Option Bool)) (mp : Nat) :
    Agree sqrt (GenAgg.vmean_filter.run sqrt xs mask mp) (C11.vmeanFilter mp xs mask) := by
  rw [GenAgg.vmean_filter.run, n_vsum_filter_eq]
  exact ite_rel _ decide_eq_true_iff (fun _ => agree_div ..) (fun _ => rfl)

theorem n_vsum_filter_spec (sqrt : Rat → Rat) (xs : List (Option Rat)) (mask : List (Option Bool)) :
    GenAgg.n_vsum_filter.run sqrt xs mask = Spec.nVsumFilter xs mask := by
  rw [n_vsum_filter_eq, C11.n_vsum_filter_exact]
end Tv.C11Gen
