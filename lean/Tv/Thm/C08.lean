import Tv.Model.Null
import Tv.Thm.C01
/-!
# C08 — NaN and None are the same null; nulls are transparent to valid aggregations

Part 1: encodings. Every null-aware model function takes the *decoded* series
`List (Option Rat)`; these theorems say that decoding a float-encoded or an option-encoded
series gives the same decoded series, that the null-skipping folds factor through the decoding,
and that asking for float or optional output only changes the encoding of the result.
Part 2 (transparency of the aggregations under insertion / deletion of nulls): `C11.*_filter` for
the aggregation models, `C08Gen.lean` for the regenerated code.
-/
namespace Tv.C08
open Tv

/-- decoding the NaN encoding of a logical series gives the series back -/
theorem decode_float (xs : List (Option Rat)) : (xs.map FVal.ofOpt).map FVal.toOpt = xs := by
  rw [List.map_map]
  exact List.map_id'' (fun o => by cases o <;> rfl) xs

/-- decoding the None encoding is the identity -/
theorem decode_opt (xs : List (Option Rat)) : xs.map optToOpt = xs :=
  List.map_id'' (fun _ => rfl) xs

/-- **NaN ≡ None**: both encodings of a logical series decode to the same sequence, so every
null-aware function (which the model evaluates on the decoded sequence) gives the same result -/
theorem encodings_agree (xs : List (Option Rat)) :
    (xs.map FVal.ofOpt).map FVal.toOpt = xs.map optToOpt := by
  rw [decode_float, decode_opt]

/-- the predicates agree on each encoding: `is_none ↔ to_opt = None` -/
theorem isNone_iff_toOpt (v : FVal) : v.isNone = true ↔ v.toOpt = none := by
  cases v <;> simp [FVal.isNone, FVal.toOpt]

/-- a fold that also counts returns the length -/
theorem foldl_len {σ α : Type} (f : σ → α → σ) (l : List α) (n : Nat) (a : σ) :
    l.foldl (fun p x => (p.1 + 1, f p.2 x)) (n, a) = (n + l.length, l.foldl f a) := by
  induction l generalizing n a with
  | nil => rfl
  | cons x l ih => rw [List.foldl_cons, ih, List.length_cons, List.foldl_cons, Nat.add_right_comm, Nat.add_assoc]

/-- the null-skipping fold over any encoding sees the series through its decoding only: with a
decoder `dec` that agrees with the encoding's null test and `unwrap`, it is the plain fold (and the
length) of the decoded valid elements -/
theorem vfoldN_decode {ε σ : Type} (isNone : ε → Bool) (unwrap : ε → Rat) (dec : ε → Option Rat)
    (hd : ∀ e, dec e = if isNone e then none else some (unwrap e)) (f : σ → Rat → σ) (init : σ) (es : List ε) :
    vfoldN isNone unwrap f init es = ((valid (es.map dec)).length, (valid (es.map dec)).foldl f init) := by
  rw [← Nat.zero_add (valid (es.map dec)).length, ← foldl_len, valid, List.filterMap_map, List.foldl_filterMap]
  unfold vfoldN
  congr 1
  funext acc e
  rw [Function.comp_apply, id, hd e]
  cases isNone e <;> rfl

/-- the null-skipping folds only see the decoded valid elements: folding the float encoding
equals folding `valid` of the logical series, with `n` = number of valid elements -/
theorem vfold_factors {σ : Type} (f : σ → Rat → σ) (init : σ) (xs : List (Option Rat)) :
    vfoldN FVal.isNone FVal.unwrap f init (xs.map FVal.ofOpt)
      = ((valid xs).length, (valid xs).foldl f init) := by
  rw [vfoldN_decode _ _ FVal.toOpt (fun e => by cases e <;> rfl), decode_float]

/-- **nulls are transparent to every null-skipping fold**: two series with the same non-null
elements in the same order (nulls inserted or removed anywhere, in either encoding) fold to the
same count and the same accumulator -/
theorem vfold_null_transparent {σ : Type} (f : σ → Rat → σ) (init : σ) (xs ys : List (Option Rat))
    (h : valid xs = valid ys) :
    vfoldN FVal.isNone FVal.unwrap f init (xs.map FVal.ofOpt)
      = vfoldN FVal.isNone FVal.unwrap f init (ys.map FVal.ofOpt) := by
  rw [vfold_factors, vfold_factors, h]

/-- in particular an extra null anywhere changes nothing -/
theorem vfold_insert_null {σ : Type} (f : σ → Rat → σ) (init : σ) (xs ys : List (Option Rat)) :
    vfoldN FVal.isNone FVal.unwrap f init ((xs ++ none :: ys).map FVal.ofOpt)
      = vfoldN FVal.isNone FVal.unwrap f init ((xs ++ ys).map FVal.ofOpt) := by
  apply vfold_null_transparent
  simp [valid]

/-- same for the option encoding -/
theorem vfold_factors_opt {σ : Type} (f : σ → Rat → σ) (init : σ) (xs : List (Option Rat)) :
    vfoldN (fun o : Option Rat => o.isNone) (fun o => o.getD 0) f init xs
      = ((valid xs).length, (valid xs).foldl f init) := by
  rw [vfoldN_decode _ _ optToOpt (fun e => by cases e <;> rfl), decode_opt]

/-- **output encoding**: float and optional outputs of a result carry the same information -/
theorem out_encodings (o : Out) : (outToF o).toOpt = outToO o := by
  cases o <;> rfl

/-- rolling features on either input encoding and either driver shape: one result -/
theorem feat_encoding_indep (f : Feat) (sh sh' : Shape) (xs : List (Option Rat)) (w : Nat) (mp : Option Nat)
    (hw : 1 ≤ w) :
    tsFeat f sh ((xs.map FVal.ofOpt).map FVal.toOpt) w mp = tsFeat f sh' (xs.map optToOpt) w mp := by
  rw [decode_float, decode_opt, C01.tsFeat_exact f sh xs w mp hw, C01.tsFeat_exact f sh' xs w mp hw]

/-- rolling features see a window only through its non-null elements: windows with the same
valid elements give the same output (nulls are transparent inside a window). The content is
`C01.tsFeat_exact`: the output at a position is `Spec.feat` of the valid part of its window; this
line only records the consequence. -/
theorem feat_valid_only (f : Feat) (w : Nat) (mp : Option Nat) (l l' : List (Option Rat))
    (h : valid l = valid l') : Spec.feat f w mp (valid l) = Spec.feat f w mp (valid l') := by rw [h]

example : ([some 1, none, some 3].map FVal.ofOpt) = [.fin 1, .nan, .fin 3] := rfl

end Tv.C08
