import Tv.GenMap
import Tv.Thm.C13
/-!
# C13 — the mapping operations regenerated from tea-map are the model's operations

`Tv.GenMap.<fn>.run` is written by translator/maps.py from the Rust source on every run (function
body in source order; the iterator algebra `repeat_n / chain / take / skip / zip / map` read as the
list algebra of the yielded items).  For `shift`, `vshift`, `vdiff`, `vpct_change`, `vclip`,
`fill(_mask)`, `ffill(_mask)`, `bfill(_mask)`, `abs`, `vabs` and `drop_none` this file proves that the
regenerated function **equals** the hand-written model for every series and every parameter (`*_eq`),
and therefore — through the C13 theorems — the positional definition of the property (`*_spec`).
`ffill(_mask)` / `bfill(_mask)` — a `map` closure that mutates a captured cell — become the
state-passing map `mapSt`. The other functions of the table (`vcut`, `vsorted_unique*`) belong to C14.
-/
namespace Tv.C13Gen
open Tv Tv.C13

/-- The branch skeleton of the lagged operations: the regenerated code tests `decide p` where the
model tests `p`; the first branch is the same list, the other two are compared by the caller. -/
theorem lag_ite {γ : Type} (p q : Prop) [Decidable p] [Decidable q] (A B B' C C' : γ) (hB : B = B')
    (hC : C = C') :
    (if decide p then A else if decide q then B else C) = if p then A else if q then B' else C' := by
  subst hB hC
  simp only [decide_eq_true_eq]

/-- `zip` then `map` with a closure on pairs is `zipWith` -/
theorem map_zip {α β γ : Type} (g : α × β → γ) (f : α → β → γ) (h : ∀ a b, g (a, b) = f a b)
    (l1 : List α) (l2 : List β) : (l1.zip l2).map g = List.zipWith f l1 l2 := by
  rw [List.map_zip_eq_zipWith]
  congr
  funext a b
  exact h a b

theorem shift_eq (xs : List (Option Rat)) (n : Int) (v : Option Rat) :
    GenMap.shift.run xs n v = C13.shift n v xs :=
  lag_ite _ _ _ _ _ _ _ rfl (by simp only [decide_eq_true_eq])

theorem vshift_eq (xs : List (Option Rat)) (n : Int) (value : Option (Option Rat)) :
    GenMap.vshift.run xs n value = C13.vshift n value xs :=
  lag_ite _ _ _ _ _ _ _ rfl (by simp only [decide_eq_true_eq])

theorem lift2_sub (b a : Option Rat) : Gen.lift2 (· - ·) b a = osub b a := by
  cases b <;> cases a <;> rfl

theorem vdiff_eq (xs : List (Option Rat)) (n : Int) (value : Option (Option Rat)) :
    GenMap.vdiff.run xs n value = C13.vdiff n value xs :=
  lag_ite _ _ _ _ _ _ _ (congrArg _ (map_zip _ _ (fun a b => lift2_sub b a) _ _))
    (congrArg (· ++ _) (map_zip _ _ (fun a b => lift2_sub b a) _ _))

theorem vpct_change_eq (xs : List (Option Rat)) (n : Int) :
    GenMap.vpct_change.run xs n = C13.vpctChange n xs := by
  refine lag_ite _ _ _ _ _ _ _ ?_ (congrArg (· ++ _) ?_)
  · rw [List.map_id']
    exact map_zip _ _ (fun a b => by cases a <;> cases b <;> simp [pct]) _ _
  · exact map_zip _ _ (fun a b => by cases a <;> cases b <;> simp [pct]) _ _

theorem fill_mask_eq (xs : List (Option Rat)) (mask : Option Rat → Bool) (value : Option Rat) :
    GenMap.fill_mask.run xs mask value = C13.fillMask mask value xs := rfl

theorem fill_eq (xs : List (Option Rat)) (value : Option Rat) :
    GenMap.fill.run xs value = C13.fill value xs := rfl

theorem ratAbs_eq (q : Rat) : Gen.ratAbs q = C13.rabs q := rfl
theorem abs_eq (xs : List (Option Rat)) : GenMap.abs.run xs = C13.abs xs := rfl
theorem vabs_eq (xs : List (Option Rat)) : GenMap.vabs.run xs = C13.vabs xs := rfl
/-- `drop_none` yields exactly the non-null items, in order -/
theorem drop_none_eq (xs : List (Option Rat)) : GenMap.drop_none.run xs = xs.filter Option.isSome := rfl

/-- per element the two differ only in `decide p` against `p` and in `some x` against the `v` it came from -/
theorem vclip_eq (xs : List (Option Rat)) (lower upper : Option Rat) :
    GenMap.vclip.run xs lower upper = C13.vclip lower upper xs := by
  unfold GenMap.vclip.run C13.vclip
  rcases lower with _ | lo <;> rcases upper with _ | hi
  · rfl
  · exact List.map_congr_left fun v _ => by cases v <;> simp only [decide_eq_true_eq, Option.getD_some]
  · exact List.map_congr_left fun v _ => by cases v <;> simp only [decide_eq_true_eq, Option.getD_some]
  · exact List.map_congr_left fun v _ => by cases v <;> simp only [decide_eq_true_eq, Option.getD_some]

/-- a state-passing map whose closure stores the last unmasked element and substitutes it (or the
default) for masked ones is the model's `fillGo` -/
theorem mapSt_fill (mask : Option Rat → Bool) (dflt : Option Rat)
    (f : Option (Option Rat) → Option Rat → Option (Option Rat) × Option Rat)
    (hm : ∀ lv v, mask v = true → f lv v = (lv, lv.getD dflt))
    (hu : ∀ lv v, mask v = false → f lv v = (some v, v))
    (lv : Option (Option Rat)) (xs : List (Option Rat)) :
    Gen.mapSt f lv xs = fillGo mask dflt lv xs := by
  induction xs generalizing lv with
  | nil => rfl
  | cons x xs ih => cases h : mask x <;> cases lv <;> simp [Gen.mapSt, fillGo, h, hm, hu, ih]

theorem ffill_mask_eq (xs : List (Option Rat)) (mask : Option Rat → Bool) (value : Option (Option Rat)) :
    GenMap.ffill_mask.run xs mask value = C13.ffillMask mask value xs := by
  refine mapSt_fill mask (value.getD none) _ (fun lv v h => ?_) (fun lv v h => ?_) none xs
  · simp only [h, if_true]
    cases lv <;> cases value <;> rfl
  · simp only [h, Bool.false_eq_true, if_false]

/-- both the code and the model run the forward closure over the reversed series -/
theorem bfill_mask_eq (xs : List (Option Rat)) (mask : Option Rat → Bool) (value : Option (Option Rat)) :
    GenMap.bfill_mask.run xs mask value = C13.bfillMask mask value xs :=
  congrArg List.reverse (ffill_mask_eq xs.reverse mask value)

theorem ffill_eq (xs : List (Option Rat)) (value : Option (Option Rat)) :
    GenMap.ffill.run xs value = C13.ffill value xs := ffill_mask_eq xs _ value
theorem bfill_eq (xs : List (Option Rat)) (value : Option (Option Rat)) :
    GenMap.bfill.run xs value = C13.bfill value xs := bfill_mask_eq xs _ value

/-! ## the regenerated operations against the positional definitions (`Spec`, via the C13 theorems) -/

theorem shift_spec (xs : List (Option Rat)) (n : Int) (v : Option Rat) :
    GenMap.shift.run xs n v = Spec.shiftS n v xs := by rw [shift_eq, C13.shift_eq_shiftS]
theorem vshift_spec (xs : List (Option Rat)) (n : Int) (value : Option (Option Rat)) :
    GenMap.vshift.run xs n value = Spec.shiftS n (value.getD none) xs := by rw [vshift_eq, C13.vshift_eq_shiftS]
theorem vdiff_spec (xs : List (Option Rat)) (n : Int) (value : Option (Option Rat)) :
    GenMap.vdiff.run xs n value = Spec.diffS n (value.getD none) xs := by rw [vdiff_eq, C13.vdiff_eq_diffS]
theorem vpct_change_spec (xs : List (Option Rat)) (n : Int) :
    GenMap.vpct_change.run xs n = Spec.pctS n xs := by rw [vpct_change_eq, C13.vpct_eq_pctS]
theorem vclip_spec (xs : List (Option Rat)) (lo hi : Option Rat) :
    GenMap.vclip.run xs lo hi = Spec.clipS lo hi xs := by rw [vclip_eq, C13.clip_eq_clipS]
theorem fill_spec (xs : List (Option Rat)) (v : Option Rat) :
    GenMap.fill.run xs v = Spec.fillS Option.isNone v xs := by rw [fill_eq]; rfl

theorem ffill_spec (xs : List (Option Rat)) (mask : Option Rat → Bool) (value : Option (Option Rat)) :
    GenMap.ffill_mask.run xs mask value = Spec.ffillS mask (value.getD none) xs := by
  rw [ffill_mask_eq, C13.ffill_eq_ffillS]
theorem bfill_spec (xs : List (Option Rat)) (mask : Option Rat → Bool) (value : Option (Option Rat)) :
    GenMap.bfill_mask.run xs mask value = Spec.bfillS mask (value.getD none) xs := by
  rw [bfill_mask_eq, C13.bfill_eq_bfillS]

theorem fill_mask_spec (xs : List (Option Rat)) (mask : Option Rat → Bool) (v : Option Rat) :
    GenMap.fill_mask.run xs mask v = Spec.fillS mask v xs := by rw [fill_mask_eq]; rfl
theorem abs_spec (xs : List (Option Rat)) : GenMap.abs.run xs = Spec.absS xs := by
  rw [abs_eq]; exact (C13.abs_eq_absS xs).2
theorem vabs_spec (xs : List (Option Rat)) : GenMap.vabs.run xs = Spec.absS xs := by
  rw [vabs_eq]; exact (C13.abs_eq_absS xs).1

/-- all fourteen functions were found and translated -/
theorem functions_present :
    ∀ n ∈ ["shift", "vclip", "fill_mask", "fill", "ffill_mask", "ffill", "bfill_mask", "bfill", "vshift", "vdiff",
      "vpct_change", "abs", "vabs", "drop_none"], n ∈ GenMap.functions :=
  -- the names asked for are the first fourteen of the generated table
  fun _ hn => List.mem_of_mem_take (i := 14) hn

end Tv.C13Gen
