import Tv.GenClosures
import Tv.Lemmas.GenSim
import Tv.Thm.C01
import Tv.Thm.C02Gen
import Mathlib.Tactic.Ring
import Mathlib.Tactic.FieldSimp
import Mathlib.Tactic.NormNum
/-!
# C01 — the closures regenerated from features.rs are the model's closures

`Tv.Gen.<fn>.step` is written by translator/closures.py from the Rust source on every run.
For each of the 16 entry points of tea-rolling/src/features.rs this file proves that one call of the
regenerated closure simulates one call of the hand-written model closure under the relation `R_<fn>`
(`*_step`: `hstep_of_parts` applied to one fact about each printed part — `add` and `post` keep the
relation, `emit` on related states agrees with the model's result, `*_emit`), that its `min_periods`
expression is the model's mask (`*_minPeriods`), and — through `exact_of_step`, which composes the
simulation with `C01.tsFeat_exact` — that the regenerated closure, driven over the callback sequence of
either driver shape, produces the from-scratch statistic at every position (`*_exact`).  A plain `ts_*`
closure computes its result by the same expression as its null-aware twin, so its `emit` fact is the
twin's `*_emit` at the same sums.  `*_from_source` puts the log of the regenerated driver (`C02Gen`)
under `*_exact`; that the entry point uses this driver is column 5 of the mask table
(`C01.minK_in_table`).
The same five statements are repeated per entry point; what differs is the relation `R_<fn>` (which
fields of the generated state are which sums), the case analysis in `*_emit`, and `rfl` against
`Nat.max_zero` in `*_minPeriods` (a `.max(k)` with `k > 0`, or none).
`Agree sqrt o t` reads the model's `root s q` token as `s * sqrt q`; the skew closed form is
rewritten under the root sign in the model, so its values are compared by the weak form `AgreeW`
(mask, zero branch and branch structure) and by the correspondence run.
-/
-- the `<;> try ring` / `first | rfl | trivial` fall-backs are deliberate: they let a rewrite of the
-- Rust source that changes no value (`v * v` → `v.powi(2)`, commuted operands) pass unchanged
set_option linter.unusedSimpArgs false
set_option linter.unusedTactic false
set_option linter.unreachableTactic false
namespace Tv.C01Gen
open Tv Tv.GenSim

theorem eps_eq : Gen.EPS = EPS := by norm_num [Gen.EPS, EPS]
theorem eps_not_neg' : ¬ (EPS < 0 - 0 * 0) := by norm_num [EPS]
theorem cast_kurt_den {n : Nat} (h : 3 ≤ n) : (((n - 2) * (n - 3) : Nat) : Rat) = ((n : Rat) - 2) * ((n : Rat) - 3) := by
  rw [Nat.cast_mul, Nat.cast_sub (Nat.le_trans (by decide) h), Nat.cast_sub h]; rfl
theorem cast_sq_pred {n : Nat} (h : 1 ≤ n) : ((n * n - 1 : Nat) : Rat) = (n : Rat) * n - 1 := by
  rw [Nat.cast_sub (Nat.mul_le_mul h h), Nat.cast_mul]; rfl
theorem cast_three_pred_sq {n : Nat} (h : 1 ≤ n) : ((3 * ((n - 1) * (n - 1)) : Nat) : Rat) = 3 * (((n : Rat) - 1) * ((n : Rat) - 1)) := by
  rw [Nat.cast_mul, Nat.cast_mul, Nat.cast_sub h]; rfl

/-- a population variance above `EPS` needs at least one observation (`x / 0 = 0`) -/
theorem pos_of_eps_lt {m : Mom} (hv : EPS < m.s2 / ↑m.n - m.s1 / ↑m.n * (m.s1 / ↑m.n)) : 0 < m.n :=
  Nat.pos_of_ne_zero fun e => absurd hv (by rw [e]; norm_num [EPS])

/-- plain (`ts_*`) closures take the element itself; the model sees it as a non-null element -/
abbrev plainCalls (cs : List (Option Rat × Rat)) : List (Option (Option Rat) × Option Rat) :=
  cs.map fun c => (c.1.map some, some c.2)

/-- **From the step simulation to the statistic.**  The closure's step follows the model closure `r m` of
feature `f` under `R`, with results related by `A` (`hstep`, from the three part facts by
`hstep_of_parts`), the initial states are related (`h0`), and its `min_periods` expression `m` is the
model's (`hm`).  Then, driven over the callbacks of either driver shape, it yields at every position the
from-scratch statistic of the window (`run_sim`, `C01.tsFeat_exact`).  `ys` is the series as the model
sees it. -/
theorem exact_of_step {σ τ α : Type} (ι : α → Option Rat) (f : Feat) (w : Nat) (mp : Option Nat)
    (r : Nat → Roll τ (Option Rat) Out) (m0 : τ) (R : σ → τ → Prop) {A : Option Rat → Out → Prop} {m : Nat}
    (hm : m = effMp mp w f.minK) {step : σ → Option α → α → σ × Option Rat} {g0 : σ}
    (hstep : ∀ g t rm v, R g t →
      R (step g rm v).1 ((r m).step t (rm.map ι) (ι v)).1 ∧ A (step g rm v).2 ((r m).step t (rm.map ι) (ι v)).2)
    (h0 : R g0 m0)
    (hf : ∀ sh (zs : List (Option Rat)), tsFeat f sh zs w mp = (r (effMp mp w f.minK)).run m0 (applyCalls sh zs w))
    (sh : Shape) (xs : List α) (ys : List (Option Rat)) (hys : xs.map ι = ys) (hw : 1 ≤ w) :
    List.Forall₂ A (genRun step g0 (applyCalls sh xs w))
      ((List.range xs.length).map fun i => Spec.feat f w mp (vwin ys i w)) := by
  subst hm hys
  have h := run_sim ι step _ R A hstep (applyCalls sh xs w) g0 m0 h0
  rwa [← applyCalls_map, ← hf, C01.tsFeat_exact f sh _ w mp hw, List.length_map] at h

def R_ts_vsum (g : Gen.ts_vsum.St) (m : Mom) : Prop := g.sum = m.s1 ∧ g.n = m.n
theorem ts_vsum_emit (sqrt : Rat → Rat) (w mp : Nat) (g : Gen.ts_vsum.St) (m : Mom) (v : Option Rat) (h : R_ts_vsum g m) :
    Agree sqrt (Gen.ts_vsum.emit sqrt w mp g v) ((momRoll (emitSum mp)).emit m) := by
  obtain ⟨h0, h1⟩ := h
  simp only [Gen.ts_vsum.emit, momRoll, emitSum, Mom.pvar, h0, h1, eps_eq, sq, decide_eq_true_eq, ge_iff_le, gt_iff_lt]
  split_ifs <;> first | rfl | trivial
theorem ts_vsum_step (sqrt : Rat → Rat) (w mp : Nat) (g : Gen.ts_vsum.St) (m : Mom) (rm : Option (Option Rat)) (v : Option Rat) (h : R_ts_vsum g m) :
    R_ts_vsum (Gen.ts_vsum.step sqrt w mp g rm v).1 ((momRoll (emitSum mp)).step m (rm.map id) (id v)).1 ∧
    (Agree sqrt) (Gen.ts_vsum.step sqrt w mp g rm v).2 ((momRoll (emitSum mp)).step m (rm.map id) (id v)).2 :=
  hstep_of_parts id _ _ _ _ _ (momRoll (emitSum mp)) R_ts_vsum (Agree sqrt) (Gen.ts_vsum.step_eq sqrt w mp) (Gen.ts_vsum.pre_eq sqrt w mp)
    (fun g m v ⟨h0, h1⟩ => by
      cases v <;> simp only [id_eq, Gen.ts_vsum.add, momRoll, Mom.add, R_ts_vsum, h0, h1, pow_two, true_and, and_true] <;> try ring)
    (fun g m x ⟨h0, h1⟩ => by
      cases x <;> simp only [id_eq, Gen.ts_vsum.post, momRoll, Mom.remove, R_ts_vsum, h0, h1, pow_two, true_and, and_true] <;> try ring)
    (fun _ => rfl) (ts_vsum_emit sqrt w mp) g m rm v h
theorem ts_vsum_minPeriods (w : Nat) (mp : Option Nat) : Gen.ts_vsum.minPeriods w mp = effMp mp w Feat.sum.minK :=
  (Nat.max_zero _).symm
/-- the closure regenerated from the source of `ts_vsum`, driven over the callbacks of either driver
shape, yields the from-scratch statistic of the window at every position -/
theorem ts_vsum_exact (sqrt : Rat → Rat) (sh : Shape) (xs : List (Option Rat)) (w : Nat) (mp : Option Nat) (hw : 1 ≤ w) :
    List.Forall₂ (Agree sqrt)
      (genRun (Gen.ts_vsum.step sqrt w (Gen.ts_vsum.minPeriods w mp)) (Gen.ts_vsum.init w) (applyCalls sh xs w))
      ((List.range xs.length).map fun i => Spec.feat .sum w mp (vwin xs i w)) :=
  exact_of_step id .sum w mp (fun m => momRoll (emitSum m)) Mom.zero R_ts_vsum (ts_vsum_minPeriods w mp)
    (ts_vsum_step sqrt w _) ⟨rfl, rfl⟩ (fun _ _ => rfl) sh xs xs (List.map_id xs) hw
/-- **from source, end to end**: replay the log of the regenerated driver (`rolling_apply_to`, resp. the
iterator body `rolling_apply`) on the series, run the regenerated closure over it: every position
carries the from-scratch statistic of its window -/
theorem ts_vsum_from_source (sqrt : Rat → Rat) (xs : List (Option Rat)) (w : Nat) (mp : Option Nat) (hw : 1 ≤ w) :
    (∃ log, GenDrv.rolling_apply_to.run xs.length w = some log ∧
      List.Forall₂ (Agree sqrt)
        (genRun (Gen.ts_vsum.step sqrt w (Gen.ts_vsum.minPeriods w mp)) (Gen.ts_vsum.init w) (C02Gen.callsOfLogTo xs log))
        ((List.range xs.length).map fun i => Spec.feat .sum w mp (vwin xs i w))) ∧
    (∃ log, GenDrv.rolling_apply.run xs.length w = some log ∧
      List.Forall₂ (Agree sqrt)
        (genRun (Gen.ts_vsum.step sqrt w (Gen.ts_vsum.minPeriods w mp)) (Gen.ts_vsum.init w) (C02Gen.callsOfLogIter xs log))
        ((List.range xs.length).map fun i => Spec.feat .sum w mp (vwin xs i w))) :=
  C02Gen.e2e_apply (fun cs => List.Forall₂ (Agree sqrt) (genRun _ _ cs) _) xs w hw
    (ts_vsum_exact sqrt .to xs w mp hw) (ts_vsum_exact sqrt .iter xs w mp hw)

def R_ts_vmean (g : Gen.ts_vmean.St) (m : Mom) : Prop := g.sum = m.s1 ∧ g.n = m.n
theorem ts_vmean_emit (sqrt : Rat → Rat) (w mp : Nat) (g : Gen.ts_vmean.St) (m : Mom) (v : Option Rat) (h : R_ts_vmean g m) :
    Agree sqrt (Gen.ts_vmean.emit sqrt w mp g v) ((momRoll (emitMean mp)).emit m) := by
  obtain ⟨h0, h1⟩ := h
  simp only [Gen.ts_vmean.emit, momRoll, emitMean, Mom.pvar, h0, h1, eps_eq, sq, decide_eq_true_eq, ge_iff_le, gt_iff_lt]
  simp only [Out.div]
  split_ifs <;> first | rfl | trivial
theorem ts_vmean_step (sqrt : Rat → Rat) (w mp : Nat) (g : Gen.ts_vmean.St) (m : Mom) (rm : Option (Option Rat)) (v : Option Rat) (h : R_ts_vmean g m) :
    R_ts_vmean (Gen.ts_vmean.step sqrt w mp g rm v).1 ((momRoll (emitMean mp)).step m (rm.map id) (id v)).1 ∧
    (Agree sqrt) (Gen.ts_vmean.step sqrt w mp g rm v).2 ((momRoll (emitMean mp)).step m (rm.map id) (id v)).2 :=
  hstep_of_parts id _ _ _ _ _ (momRoll (emitMean mp)) R_ts_vmean (Agree sqrt) (Gen.ts_vmean.step_eq sqrt w mp) (Gen.ts_vmean.pre_eq sqrt w mp)
    (fun g m v ⟨h0, h1⟩ => by
      cases v <;> simp only [id_eq, Gen.ts_vmean.add, momRoll, Mom.add, R_ts_vmean, h0, h1, pow_two, true_and, and_true] <;> try ring)
    (fun g m x ⟨h0, h1⟩ => by
      cases x <;> simp only [id_eq, Gen.ts_vmean.post, momRoll, Mom.remove, R_ts_vmean, h0, h1, pow_two, true_and, and_true] <;> try ring)
    (fun _ => rfl) (ts_vmean_emit sqrt w mp) g m rm v h
theorem ts_vmean_minPeriods (w : Nat) (mp : Option Nat) : Gen.ts_vmean.minPeriods w mp = effMp mp w Feat.mean.minK :=
  (Nat.max_zero _).symm
theorem ts_vmean_exact (sqrt : Rat → Rat) (sh : Shape) (xs : List (Option Rat)) (w : Nat) (mp : Option Nat) (hw : 1 ≤ w) :
    List.Forall₂ (Agree sqrt)
      (genRun (Gen.ts_vmean.step sqrt w (Gen.ts_vmean.minPeriods w mp)) (Gen.ts_vmean.init w) (applyCalls sh xs w))
      ((List.range xs.length).map fun i => Spec.feat .mean w mp (vwin xs i w)) :=
  exact_of_step id .mean w mp (fun m => momRoll (emitMean m)) Mom.zero R_ts_vmean (ts_vmean_minPeriods w mp)
    (ts_vmean_step sqrt w _) ⟨rfl, rfl⟩ (fun _ _ => rfl) sh xs xs (List.map_id xs) hw
theorem ts_vmean_from_source (sqrt : Rat → Rat) (xs : List (Option Rat)) (w : Nat) (mp : Option Nat) (hw : 1 ≤ w) :
    (∃ log, GenDrv.rolling_apply_to.run xs.length w = some log ∧
      List.Forall₂ (Agree sqrt)
        (genRun (Gen.ts_vmean.step sqrt w (Gen.ts_vmean.minPeriods w mp)) (Gen.ts_vmean.init w) (C02Gen.callsOfLogTo xs log))
        ((List.range xs.length).map fun i => Spec.feat .mean w mp (vwin xs i w))) ∧
    (∃ log, GenDrv.rolling_apply.run xs.length w = some log ∧
      List.Forall₂ (Agree sqrt)
        (genRun (Gen.ts_vmean.step sqrt w (Gen.ts_vmean.minPeriods w mp)) (Gen.ts_vmean.init w) (C02Gen.callsOfLogIter xs log))
        ((List.range xs.length).map fun i => Spec.feat .mean w mp (vwin xs i w))) :=
  C02Gen.e2e_apply (fun cs => List.Forall₂ (Agree sqrt) (genRun _ _ cs) _) xs w hw
    (ts_vmean_exact sqrt .to xs w mp hw) (ts_vmean_exact sqrt .iter xs w mp hw)

def R_ts_vstd (g : Gen.ts_vstd.St) (m : Mom) : Prop := g.sum = m.s1 ∧ g.sum2 = m.s2 ∧ g.n = m.n
theorem ts_vstd_emit (sqrt : Rat → Rat) (w mp : Nat) (g : Gen.ts_vstd.St) (m : Mom) (v : Option Rat) (h : R_ts_vstd g m) :
    Agree sqrt (Gen.ts_vstd.emit sqrt w mp g v) ((momRoll (emitStd mp)).emit m) := by
  obtain ⟨h0, h1, h2⟩ := h
  simp only [Gen.ts_vstd.emit, momRoll, emitStd, Mom.pvar, h0, h1, h2, eps_eq, sq, decide_eq_true_eq, ge_iff_le, gt_iff_lt]
  by_cases hm : mp ≤ m.n
  · by_cases hv : EPS < m.s2 / ↑m.n - m.s1 / ↑m.n * (m.s1 / ↑m.n)
    · simp only [hm, hv, if_true, Nat.cast_pred (pos_of_eps_lt hv)]
      split
      · trivial
      · simp only [Agree, Int.cast_one, one_mul]
    · simp only [hm, hv, if_true, if_false]; rfl
  · simp only [hm, if_false]; rfl

theorem ts_vstd_step (sqrt : Rat → Rat) (w mp : Nat) (g : Gen.ts_vstd.St) (m : Mom) (rm : Option (Option Rat)) (v : Option Rat) (h : R_ts_vstd g m) :
    R_ts_vstd (Gen.ts_vstd.step sqrt w mp g rm v).1 ((momRoll (emitStd mp)).step m (rm.map id) (id v)).1 ∧
    (Agree sqrt) (Gen.ts_vstd.step sqrt w mp g rm v).2 ((momRoll (emitStd mp)).step m (rm.map id) (id v)).2 :=
  hstep_of_parts id _ _ _ _ _ (momRoll (emitStd mp)) R_ts_vstd (Agree sqrt) (Gen.ts_vstd.step_eq sqrt w mp) (Gen.ts_vstd.pre_eq sqrt w mp)
    (fun g m v ⟨h0, h1, h2⟩ => by
      cases v <;> simp only [id_eq, Gen.ts_vstd.add, momRoll, Mom.add, R_ts_vstd, h0, h1, h2, pow_two, true_and, and_true] <;> try ring)
    (fun g m x ⟨h0, h1, h2⟩ => by
      cases x <;> simp only [id_eq, Gen.ts_vstd.post, momRoll, Mom.remove, R_ts_vstd, h0, h1, h2, pow_two, true_and, and_true] <;> try ring)
    (fun _ => rfl) (ts_vstd_emit sqrt w mp) g m rm v h
theorem ts_vstd_minPeriods (w : Nat) (mp : Option Nat) : Gen.ts_vstd.minPeriods w mp = effMp mp w Feat.std.minK := rfl
theorem ts_vstd_exact (sqrt : Rat → Rat) (sh : Shape) (xs : List (Option Rat)) (w : Nat) (mp : Option Nat) (hw : 1 ≤ w) :
    List.Forall₂ (Agree sqrt)
      (genRun (Gen.ts_vstd.step sqrt w (Gen.ts_vstd.minPeriods w mp)) (Gen.ts_vstd.init w) (applyCalls sh xs w))
      ((List.range xs.length).map fun i => Spec.feat .std w mp (vwin xs i w)) :=
  exact_of_step id .std w mp (fun m => momRoll (emitStd m)) Mom.zero R_ts_vstd (ts_vstd_minPeriods w mp)
    (ts_vstd_step sqrt w _) ⟨rfl, rfl, rfl⟩ (fun _ _ => rfl) sh xs xs (List.map_id xs) hw
theorem ts_vstd_from_source (sqrt : Rat → Rat) (xs : List (Option Rat)) (w : Nat) (mp : Option Nat) (hw : 1 ≤ w) :
    (∃ log, GenDrv.rolling_apply_to.run xs.length w = some log ∧
      List.Forall₂ (Agree sqrt)
        (genRun (Gen.ts_vstd.step sqrt w (Gen.ts_vstd.minPeriods w mp)) (Gen.ts_vstd.init w) (C02Gen.callsOfLogTo xs log))
        ((List.range xs.length).map fun i => Spec.feat .std w mp (vwin xs i w))) ∧
    (∃ log, GenDrv.rolling_apply.run xs.length w = some log ∧
      List.Forall₂ (Agree sqrt)
        (genRun (Gen.ts_vstd.step sqrt w (Gen.ts_vstd.minPeriods w mp)) (Gen.ts_vstd.init w) (C02Gen.callsOfLogIter xs log))
        ((List.range xs.length).map fun i => Spec.feat .std w mp (vwin xs i w))) :=
  C02Gen.e2e_apply (fun cs => List.Forall₂ (Agree sqrt) (genRun _ _ cs) _) xs w hw
    (ts_vstd_exact sqrt .to xs w mp hw) (ts_vstd_exact sqrt .iter xs w mp hw)

def R_ts_vvar (g : Gen.ts_vvar.St) (m : Mom) : Prop := g.sum = m.s1 ∧ g.sum2 = m.s2 ∧ g.n = m.n
theorem ts_vvar_emit (sqrt : Rat → Rat) (w mp : Nat) (g : Gen.ts_vvar.St) (m : Mom) (v : Option Rat) (h : R_ts_vvar g m) :
    Agree sqrt (Gen.ts_vvar.emit sqrt w mp g v) ((momRoll (emitVar mp)).emit m) := by
  obtain ⟨h0, h1, h2⟩ := h
  simp only [Gen.ts_vvar.emit, momRoll, emitVar, Mom.pvar, h0, h1, h2, eps_eq, sq, decide_eq_true_eq, ge_iff_le, gt_iff_lt]
  by_cases hm : mp ≤ m.n
  · by_cases hv : EPS < m.s2 / ↑m.n - m.s1 / ↑m.n * (m.s1 / ↑m.n)
    · simp only [hm, hv, if_true, Nat.cast_pred (pos_of_eps_lt hv), Out.div]
      split
      · trivial
      · rfl
    · simp only [hm, hv, if_true, if_false]; rfl
  · simp only [hm, if_false]; rfl

theorem ts_vvar_step (sqrt : Rat → Rat) (w mp : Nat) (g : Gen.ts_vvar.St) (m : Mom) (rm : Option (Option Rat)) (v : Option Rat) (h : R_ts_vvar g m) :
    R_ts_vvar (Gen.ts_vvar.step sqrt w mp g rm v).1 ((momRoll (emitVar mp)).step m (rm.map id) (id v)).1 ∧
    (Agree sqrt) (Gen.ts_vvar.step sqrt w mp g rm v).2 ((momRoll (emitVar mp)).step m (rm.map id) (id v)).2 :=
  hstep_of_parts id _ _ _ _ _ (momRoll (emitVar mp)) R_ts_vvar (Agree sqrt) (Gen.ts_vvar.step_eq sqrt w mp) (Gen.ts_vvar.pre_eq sqrt w mp)
    (fun g m v ⟨h0, h1, h2⟩ => by
      cases v <;> simp only [id_eq, Gen.ts_vvar.add, momRoll, Mom.add, R_ts_vvar, h0, h1, h2, pow_two, true_and, and_true] <;> try ring)
    (fun g m x ⟨h0, h1, h2⟩ => by
      cases x <;> simp only [id_eq, Gen.ts_vvar.post, momRoll, Mom.remove, R_ts_vvar, h0, h1, h2, pow_two, true_and, and_true] <;> try ring)
    (fun _ => rfl) (ts_vvar_emit sqrt w mp) g m rm v h
theorem ts_vvar_minPeriods (w : Nat) (mp : Option Nat) : Gen.ts_vvar.minPeriods w mp = effMp mp w Feat.var.minK := rfl
theorem ts_vvar_exact (sqrt : Rat → Rat) (sh : Shape) (xs : List (Option Rat)) (w : Nat) (mp : Option Nat) (hw : 1 ≤ w) :
    List.Forall₂ (Agree sqrt)
      (genRun (Gen.ts_vvar.step sqrt w (Gen.ts_vvar.minPeriods w mp)) (Gen.ts_vvar.init w) (applyCalls sh xs w))
      ((List.range xs.length).map fun i => Spec.feat .var w mp (vwin xs i w)) :=
  exact_of_step id .var w mp (fun m => momRoll (emitVar m)) Mom.zero R_ts_vvar (ts_vvar_minPeriods w mp)
    (ts_vvar_step sqrt w _) ⟨rfl, rfl, rfl⟩ (fun _ _ => rfl) sh xs xs (List.map_id xs) hw
theorem ts_vvar_from_source (sqrt : Rat → Rat) (xs : List (Option Rat)) (w : Nat) (mp : Option Nat) (hw : 1 ≤ w) :
    (∃ log, GenDrv.rolling_apply_to.run xs.length w = some log ∧
      List.Forall₂ (Agree sqrt)
        (genRun (Gen.ts_vvar.step sqrt w (Gen.ts_vvar.minPeriods w mp)) (Gen.ts_vvar.init w) (C02Gen.callsOfLogTo xs log))
        ((List.range xs.length).map fun i => Spec.feat .var w mp (vwin xs i w))) ∧
    (∃ log, GenDrv.rolling_apply.run xs.length w = some log ∧
      List.Forall₂ (Agree sqrt)
        (genRun (Gen.ts_vvar.step sqrt w (Gen.ts_vvar.minPeriods w mp)) (Gen.ts_vvar.init w) (C02Gen.callsOfLogIter xs log))
        ((List.range xs.length).map fun i => Spec.feat .var w mp (vwin xs i w))) :=
  C02Gen.e2e_apply (fun cs => List.Forall₂ (Agree sqrt) (genRun _ _ cs) _) xs w hw
    (ts_vvar_exact sqrt .to xs w mp hw) (ts_vvar_exact sqrt .iter xs w mp hw)

def R_ts_vskew (g : Gen.ts_vskew.St) (m : Mom) : Prop := g.sum = m.s1 ∧ g.sum2 = m.s2 ∧ g.sum3 = m.s3 ∧ g.n = m.n
theorem ts_vskew_emit (sqrt : Rat → Rat) (w mp : Nat) (g : Gen.ts_vskew.St) (m : Mom) (v : Option Rat) (h : R_ts_vskew g m) :
    AgreeW (Gen.ts_vskew.emit sqrt w mp g v) ((momRoll (emitSkew mp)).emit m) := by
  obtain ⟨h0, h1, h2, h3⟩ := h
  simp only [Gen.ts_vskew.emit, momRoll, emitSkew, Mom.pvar, h0, h1, h2, h3, eps_eq, sq, decide_eq_true_eq, ge_iff_le, gt_iff_lt]
  by_cases hm : mp ≤ m.n
  · simp only [hm, if_true]
    by_cases hv : m.s2 / ↑m.n - m.s1 / ↑m.n * (m.s1 / ↑m.n) ≤ EPS
    · simp only [hv, if_true]; rfl
    · simp only [hv, if_false]
      split_ifs <;> first | rfl | trivial
  · simp only [hm, if_false]; rfl
theorem ts_vskew_step (sqrt : Rat → Rat) (w mp : Nat) (g : Gen.ts_vskew.St) (m : Mom) (rm : Option (Option Rat)) (v : Option Rat) (h : R_ts_vskew g m) :
    R_ts_vskew (Gen.ts_vskew.step sqrt w mp g rm v).1 ((momRoll (emitSkew mp)).step m (rm.map id) (id v)).1 ∧
    AgreeW (Gen.ts_vskew.step sqrt w mp g rm v).2 ((momRoll (emitSkew mp)).step m (rm.map id) (id v)).2 :=
  hstep_of_parts id _ _ _ _ _ (momRoll (emitSkew mp)) R_ts_vskew AgreeW (Gen.ts_vskew.step_eq sqrt w mp) (Gen.ts_vskew.pre_eq sqrt w mp)
    (fun g m v ⟨h0, h1, h2, h3⟩ => by
      cases v <;> simp only [id_eq, Gen.ts_vskew.add, momRoll, Mom.add, R_ts_vskew, h0, h1, h2, h3, pow_two, true_and, and_true] <;> try ring)
    (fun g m x ⟨h0, h1, h2, h3⟩ => by
      cases x <;> simp only [id_eq, Gen.ts_vskew.post, momRoll, Mom.remove, R_ts_vskew, h0, h1, h2, h3, pow_two, true_and, and_true] <;> try ring)
    (fun _ => rfl) (ts_vskew_emit sqrt w mp) g m rm v h
theorem ts_vskew_minPeriods (w : Nat) (mp : Option Nat) : Gen.ts_vskew.minPeriods w mp = effMp mp w Feat.skew.minK := rfl
theorem ts_vskew_exact (sqrt : Rat → Rat) (sh : Shape) (xs : List (Option Rat)) (w : Nat) (mp : Option Nat) (hw : 1 ≤ w) :
    List.Forall₂ AgreeW
      (genRun (Gen.ts_vskew.step sqrt w (Gen.ts_vskew.minPeriods w mp)) (Gen.ts_vskew.init w) (applyCalls sh xs w))
      ((List.range xs.length).map fun i => Spec.feat .skew w mp (vwin xs i w)) :=
  exact_of_step id .skew w mp (fun m => momRoll (emitSkew m)) Mom.zero R_ts_vskew (ts_vskew_minPeriods w mp)
    (ts_vskew_step sqrt w _) ⟨rfl, rfl, rfl, rfl⟩ (fun _ _ => rfl) sh xs xs (List.map_id xs) hw
theorem ts_vskew_from_source (sqrt : Rat → Rat) (xs : List (Option Rat)) (w : Nat) (mp : Option Nat) (hw : 1 ≤ w) :
    (∃ log, GenDrv.rolling_apply_to.run xs.length w = some log ∧
      List.Forall₂ AgreeW
        (genRun (Gen.ts_vskew.step sqrt w (Gen.ts_vskew.minPeriods w mp)) (Gen.ts_vskew.init w) (C02Gen.callsOfLogTo xs log))
        ((List.range xs.length).map fun i => Spec.feat .skew w mp (vwin xs i w))) ∧
    (∃ log, GenDrv.rolling_apply.run xs.length w = some log ∧
      List.Forall₂ AgreeW
        (genRun (Gen.ts_vskew.step sqrt w (Gen.ts_vskew.minPeriods w mp)) (Gen.ts_vskew.init w) (C02Gen.callsOfLogIter xs log))
        ((List.range xs.length).map fun i => Spec.feat .skew w mp (vwin xs i w))) :=
  C02Gen.e2e_apply (fun cs => List.Forall₂ (AgreeW) (genRun _ _ cs) _) xs w hw
    (ts_vskew_exact sqrt .to xs w mp hw) (ts_vskew_exact sqrt .iter xs w mp hw)

def R_ts_vkurt (g : Gen.ts_vkurt.St) (m : Mom) : Prop := g.sum = m.s1 ∧ g.sum2 = m.s2 ∧ g.sum3 = m.s3 ∧ g.sum4 = m.s4 ∧ g.n = m.n
theorem ts_vkurt_emit (sqrt : Rat → Rat) (w mp : Nat) (g : Gen.ts_vkurt.St) (m : Mom) (v : Option Rat) (h : R_ts_vkurt g m) :
    Agree sqrt (Gen.ts_vkurt.emit sqrt w mp g v) ((momRoll (emitKurt mp)).emit m) := by
  obtain ⟨h0, h1, h2, h3, h4⟩ := h
  simp only [Gen.ts_vkurt.emit, momRoll, emitKurt, Mom.pvar, h0, h1, h2, h3, h4, eps_eq, sq, decide_eq_true_eq, ge_iff_le, gt_iff_lt]
  by_cases hm : mp ≤ m.n
  · by_cases hv : m.s2 / ↑m.n - m.s1 / ↑m.n * (m.s1 / ↑m.n) ≤ EPS
    · simp only [hm, hv, if_true]; rfl
    · by_cases hd : ((m.n : Rat) - 2) * ((m.n : Rat) - 3) = 0
      · simp only [hm, hv, hd, if_true, if_false]; trivial
      · simp only [hm, hv, hd, if_true, if_false]
        -- the counts `n - 1`, `n - 2`, `n - 3` are truncated in the generated code: exact from `n = 3`
        -- on; `n = 2` is excluded by `hd`, `n = 0` by `hv` (the variance is `0`), at `n = 1` both sides are `0`
        rcases Nat.lt_or_ge m.n 3 with hn | hn
        · have : m.n = 0 ∨ m.n = 1 ∨ m.n = 2 := by omega
          rcases this with e | e | e
          · exact absurd (by rw [e]; norm_num [EPS]) hv
          · rw [e]; simp only [Agree, Nat.reduceSub, Nat.reduceMul, Nat.cast_one, Nat.cast_zero, mul_one, sub_self, zero_mul, mul_zero, sub_zero, div_zero]
          · exact absurd (by rw [e]; norm_num) hd
        · rw [cast_kurt_den hn, cast_sq_pred (Nat.le_trans (by decide) hn), cast_three_pred_sq (Nat.le_trans (by decide) hn)]; rfl
  · simp only [hm, if_false]; rfl
theorem ts_vkurt_step (sqrt : Rat → Rat) (w mp : Nat) (g : Gen.ts_vkurt.St) (m : Mom) (rm : Option (Option Rat)) (v : Option Rat) (h : R_ts_vkurt g m) :
    R_ts_vkurt (Gen.ts_vkurt.step sqrt w mp g rm v).1 ((momRoll (emitKurt mp)).step m (rm.map id) (id v)).1 ∧
    (Agree sqrt) (Gen.ts_vkurt.step sqrt w mp g rm v).2 ((momRoll (emitKurt mp)).step m (rm.map id) (id v)).2 :=
  hstep_of_parts id _ _ _ _ _ (momRoll (emitKurt mp)) R_ts_vkurt (Agree sqrt) (Gen.ts_vkurt.step_eq sqrt w mp) (Gen.ts_vkurt.pre_eq sqrt w mp)
    (fun g m v ⟨h0, h1, h2, h3, h4⟩ => by
      cases v <;> simp only [id_eq, Gen.ts_vkurt.add, momRoll, Mom.add, R_ts_vkurt, h0, h1, h2, h3, h4, pow_two, true_and, and_true] <;> try ring)
    (fun g m x ⟨h0, h1, h2, h3, h4⟩ => by
      cases x <;> simp only [id_eq, Gen.ts_vkurt.post, momRoll, Mom.remove, R_ts_vkurt, h0, h1, h2, h3, h4, pow_two, true_and, and_true] <;> try ring)
    (fun _ => rfl) (ts_vkurt_emit sqrt w mp) g m rm v h
theorem ts_vkurt_minPeriods (w : Nat) (mp : Option Nat) : Gen.ts_vkurt.minPeriods w mp = effMp mp w Feat.kurt.minK := rfl
theorem ts_vkurt_exact (sqrt : Rat → Rat) (sh : Shape) (xs : List (Option Rat)) (w : Nat) (mp : Option Nat) (hw : 1 ≤ w) :
    List.Forall₂ (Agree sqrt)
      (genRun (Gen.ts_vkurt.step sqrt w (Gen.ts_vkurt.minPeriods w mp)) (Gen.ts_vkurt.init w) (applyCalls sh xs w))
      ((List.range xs.length).map fun i => Spec.feat .kurt w mp (vwin xs i w)) :=
  exact_of_step id .kurt w mp (fun m => momRoll (emitKurt m)) Mom.zero R_ts_vkurt (ts_vkurt_minPeriods w mp)
    (ts_vkurt_step sqrt w _) ⟨rfl, rfl, rfl, rfl, rfl⟩ (fun _ _ => rfl) sh xs xs (List.map_id xs) hw
theorem ts_vkurt_from_source (sqrt : Rat → Rat) (xs : List (Option Rat)) (w : Nat) (mp : Option Nat) (hw : 1 ≤ w) :
    (∃ log, GenDrv.rolling_apply_to.run xs.length w = some log ∧
      List.Forall₂ (Agree sqrt)
        (genRun (Gen.ts_vkurt.step sqrt w (Gen.ts_vkurt.minPeriods w mp)) (Gen.ts_vkurt.init w) (C02Gen.callsOfLogTo xs log))
        ((List.range xs.length).map fun i => Spec.feat .kurt w mp (vwin xs i w))) ∧
    (∃ log, GenDrv.rolling_apply.run xs.length w = some log ∧
      List.Forall₂ (Agree sqrt)
        (genRun (Gen.ts_vkurt.step sqrt w (Gen.ts_vkurt.minPeriods w mp)) (Gen.ts_vkurt.init w) (C02Gen.callsOfLogIter xs log))
        ((List.range xs.length).map fun i => Spec.feat .kurt w mp (vwin xs i w))) :=
  C02Gen.e2e_apply (fun cs => List.Forall₂ (Agree sqrt) (genRun _ _ cs) _) xs w hw
    (ts_vkurt_exact sqrt .to xs w mp hw) (ts_vkurt_exact sqrt .iter xs w mp hw)

def R_ts_vewm (g : Gen.ts_vewm.St) (m : Ewm) : Prop := g.n = m.n ∧ g.q_x = m.qx
theorem ts_vewm_post (w mp : Nat) (g : Gen.ts_vewm.St) (m : Ewm) (x : Option Rat) (h : R_ts_vewm g m) :
    R_ts_vewm (Gen.ts_vewm.post w g (some x)) ((ewmRoll w mp).remove m x) := by
  obtain ⟨h0, h1⟩ := h
  cases x <;> simp only [Gen.ts_vewm.post, ewmRoll, R_ts_vewm, h0, h1, pow_two, true_and, and_true] <;> try ring
theorem ts_vewm_emit (sqrt : Rat → Rat) (w mp : Nat) (g : Gen.ts_vewm.St) (m : Ewm) (v : Option Rat) (h : R_ts_vewm g m) :
    Agree sqrt (Gen.ts_vewm.emit sqrt w mp g v) ((ewmRoll w mp).emit m) := by
  obtain ⟨h0, h1⟩ := h
  simp only [Gen.ts_vewm.emit, ewmRoll, h0, h1, eps_eq, sq, decide_eq_true_eq, ge_iff_le, gt_iff_lt]
  simp only [Out.div]
  split_ifs <;> first | rfl | trivial
theorem ts_vewm_step (sqrt : Rat → Rat) (w mp : Nat) (g : Gen.ts_vewm.St) (m : Ewm) (rm : Option (Option Rat)) (v : Option Rat) (h : R_ts_vewm g m) :
    R_ts_vewm (Gen.ts_vewm.step sqrt w mp g rm v).1 ((ewmRoll w mp).step m (rm.map id) (id v)).1 ∧
    (Agree sqrt) (Gen.ts_vewm.step sqrt w mp g rm v).2 ((ewmRoll w mp).step m (rm.map id) (id v)).2 :=
  hstep_of_parts id _ _ _ _ _ (ewmRoll w mp) R_ts_vewm (Agree sqrt) (Gen.ts_vewm.step_eq sqrt w mp) (Gen.ts_vewm.pre_eq sqrt w mp)
    (fun g m v ⟨h0, h1⟩ => by
      cases v <;> simp only [id_eq, Gen.ts_vewm.add, ewmRoll, R_ts_vewm, h0, h1, pow_two, true_and, and_true] <;> try ring) (ts_vewm_post w mp) (fun _ => rfl) (ts_vewm_emit sqrt w mp) g m rm v h
theorem ts_vewm_minPeriods (w : Nat) (mp : Option Nat) : Gen.ts_vewm.minPeriods w mp = effMp mp w Feat.ewm.minK :=
  (Nat.max_zero _).symm
theorem ts_vewm_exact (sqrt : Rat → Rat) (sh : Shape) (xs : List (Option Rat)) (w : Nat) (mp : Option Nat) (hw : 1 ≤ w) :
    List.Forall₂ (Agree sqrt)
      (genRun (Gen.ts_vewm.step sqrt w (Gen.ts_vewm.minPeriods w mp)) (Gen.ts_vewm.init w) (applyCalls sh xs w))
      ((List.range xs.length).map fun i => Spec.feat .ewm w mp (vwin xs i w)) :=
  exact_of_step id .ewm w mp (fun m => ewmRoll w m) (⟨0, 0⟩ : Ewm) R_ts_vewm (ts_vewm_minPeriods w mp)
    (ts_vewm_step sqrt w _) ⟨rfl, rfl⟩ (fun _ _ => rfl) sh xs xs (List.map_id xs) hw
theorem ts_vewm_from_source (sqrt : Rat → Rat) (xs : List (Option Rat)) (w : Nat) (mp : Option Nat) (hw : 1 ≤ w) :
    (∃ log, GenDrv.rolling_apply_to.run xs.length w = some log ∧
      List.Forall₂ (Agree sqrt)
        (genRun (Gen.ts_vewm.step sqrt w (Gen.ts_vewm.minPeriods w mp)) (Gen.ts_vewm.init w) (C02Gen.callsOfLogTo xs log))
        ((List.range xs.length).map fun i => Spec.feat .ewm w mp (vwin xs i w))) ∧
    (∃ log, GenDrv.rolling_apply.run xs.length w = some log ∧
      List.Forall₂ (Agree sqrt)
        (genRun (Gen.ts_vewm.step sqrt w (Gen.ts_vewm.minPeriods w mp)) (Gen.ts_vewm.init w) (C02Gen.callsOfLogIter xs log))
        ((List.range xs.length).map fun i => Spec.feat .ewm w mp (vwin xs i w))) :=
  C02Gen.e2e_apply (fun cs => List.Forall₂ (Agree sqrt) (genRun _ _ cs) _) xs w hw
    (ts_vewm_exact sqrt .to xs w mp hw) (ts_vewm_exact sqrt .iter xs w mp hw)

def R_ts_vwma (g : Gen.ts_vwma.St) (m : Wma) : Prop := g.n = m.n ∧ g.sum = m.sum ∧ g.sum_xt = m.sxt
theorem ts_vwma_emit (sqrt : Rat → Rat) (w mp : Nat) (g : Gen.ts_vwma.St) (m : Wma) (v : Option Rat) (h : R_ts_vwma g m) :
    Agree sqrt (Gen.ts_vwma.emit sqrt w mp g v) ((wmaRoll mp).emit m) := by
  obtain ⟨h0, h1, h2⟩ := h
  simp only [Gen.ts_vwma.emit, wmaRoll, h0, h1, h2, eps_eq, sq, decide_eq_true_eq, ge_iff_le, gt_iff_lt]
  simp only [Out.div, pow_one]
  split_ifs <;> first | rfl | trivial
theorem ts_vwma_step (sqrt : Rat → Rat) (w mp : Nat) (g : Gen.ts_vwma.St) (m : Wma) (rm : Option (Option Rat)) (v : Option Rat) (h : R_ts_vwma g m) :
    R_ts_vwma (Gen.ts_vwma.step sqrt w mp g rm v).1 ((wmaRoll mp).step m (rm.map id) (id v)).1 ∧
    (Agree sqrt) (Gen.ts_vwma.step sqrt w mp g rm v).2 ((wmaRoll mp).step m (rm.map id) (id v)).2 :=
  hstep_of_parts id _ _ _ _ _ (wmaRoll mp) R_ts_vwma (Agree sqrt) (Gen.ts_vwma.step_eq sqrt w mp) (Gen.ts_vwma.pre_eq sqrt w mp)
    (fun g m v ⟨h0, h1, h2⟩ => by
      cases v <;> simp only [id_eq, Gen.ts_vwma.add, wmaRoll, R_ts_vwma, h0, h1, h2, pow_two, true_and, and_true] <;> try ring)
    (fun g m x ⟨h0, h1, h2⟩ => by
      cases x <;> simp only [id_eq, Gen.ts_vwma.post, wmaRoll, R_ts_vwma, h0, h1, h2, pow_two, true_and, and_true] <;> try ring)
    (fun _ => rfl) (ts_vwma_emit sqrt w mp) g m rm v h
theorem ts_vwma_minPeriods (w : Nat) (mp : Option Nat) : Gen.ts_vwma.minPeriods w mp = effMp mp w Feat.wma.minK :=
  (Nat.max_zero _).symm
theorem ts_vwma_exact (sqrt : Rat → Rat) (sh : Shape) (xs : List (Option Rat)) (w : Nat) (mp : Option Nat) (hw : 1 ≤ w) :
    List.Forall₂ (Agree sqrt)
      (genRun (Gen.ts_vwma.step sqrt w (Gen.ts_vwma.minPeriods w mp)) (Gen.ts_vwma.init w) (applyCalls sh xs w))
      ((List.range xs.length).map fun i => Spec.feat .wma w mp (vwin xs i w)) :=
  exact_of_step id .wma w mp (fun m => wmaRoll m) (⟨0, 0, 0⟩ : Wma) R_ts_vwma (ts_vwma_minPeriods w mp)
    (ts_vwma_step sqrt w _) ⟨rfl, rfl, rfl⟩ (fun _ _ => rfl) sh xs xs (List.map_id xs) hw
theorem ts_vwma_from_source (sqrt : Rat → Rat) (xs : List (Option Rat)) (w : Nat) (mp : Option Nat) (hw : 1 ≤ w) :
    (∃ log, GenDrv.rolling_apply_to.run xs.length w = some log ∧
      List.Forall₂ (Agree sqrt)
        (genRun (Gen.ts_vwma.step sqrt w (Gen.ts_vwma.minPeriods w mp)) (Gen.ts_vwma.init w) (C02Gen.callsOfLogTo xs log))
        ((List.range xs.length).map fun i => Spec.feat .wma w mp (vwin xs i w))) ∧
    (∃ log, GenDrv.rolling_apply.run xs.length w = some log ∧
      List.Forall₂ (Agree sqrt)
        (genRun (Gen.ts_vwma.step sqrt w (Gen.ts_vwma.minPeriods w mp)) (Gen.ts_vwma.init w) (C02Gen.callsOfLogIter xs log))
        ((List.range xs.length).map fun i => Spec.feat .wma w mp (vwin xs i w))) :=
  C02Gen.e2e_apply (fun cs => List.Forall₂ (Agree sqrt) (genRun _ _ cs) _) xs w hw
    (ts_vwma_exact sqrt .to xs w mp hw) (ts_vwma_exact sqrt .iter xs w mp hw)

def R_ts_sum (g : Gen.ts_sum.St) (m : Mom) : Prop := g.sum = m.s1 ∧ g.n = m.n
theorem ts_sum_step (sqrt : Rat → Rat) (w mp : Nat) (g : Gen.ts_sum.St) (m : Mom) (rm : Option (Rat)) (v : Rat) (h : R_ts_sum g m) :
    R_ts_sum (Gen.ts_sum.step sqrt w mp g rm v).1 ((momRoll (emitSum mp)).step m (rm.map some) (some v)).1 ∧
    (Agree sqrt) (Gen.ts_sum.step sqrt w mp g rm v).2 ((momRoll (emitSum mp)).step m (rm.map some) (some v)).2 :=
  hstep_of_parts some _ _ _ _ _ (momRoll (emitSum mp)) R_ts_sum (Agree sqrt) (Gen.ts_sum.step_eq sqrt w mp) (Gen.ts_sum.pre_eq sqrt w mp)
    (fun g m v ⟨h0, h1⟩ => by
      simp only [Gen.ts_sum.add, momRoll, Mom.add, R_ts_sum, h0, h1, pow_two, true_and, and_true] <;> try ring)
    (fun g m x ⟨h0, h1⟩ => by
      simp only [Gen.ts_sum.post, momRoll, Mom.remove, R_ts_sum, h0, h1, pow_two, true_and, and_true] <;> try ring)
    (fun _ => rfl) (fun g m v h => ts_vsum_emit sqrt w mp ⟨g.sum, g.n⟩ m (some v) h) g m rm v h
theorem ts_sum_minPeriods (w : Nat) (mp : Option Nat) : Gen.ts_sum.minPeriods w mp = effMp mp w Feat.sum.minK :=
  (Nat.max_zero _).symm
theorem ts_sum_exact (sqrt : Rat → Rat) (sh : Shape) (xs : List Rat) (w : Nat) (mp : Option Nat) (hw : 1 ≤ w) :
    List.Forall₂ (Agree sqrt)
      (genRun (Gen.ts_sum.step sqrt w (Gen.ts_sum.minPeriods w mp)) (Gen.ts_sum.init w) (applyCalls sh xs w))
      ((List.range xs.length).map fun i => Spec.feat .sum w mp (vwin (xs.map some) i w)) :=
  exact_of_step some .sum w mp (fun m => momRoll (emitSum m)) Mom.zero R_ts_sum (ts_sum_minPeriods w mp)
    (ts_sum_step sqrt w _) ⟨rfl, rfl⟩ (fun _ _ => rfl) sh xs _ rfl hw
theorem ts_sum_from_source (sqrt : Rat → Rat) (xs : List Rat) (w : Nat) (mp : Option Nat) (hw : 1 ≤ w) :
    (∃ log, GenDrv.rolling_apply_to.run xs.length w = some log ∧
      List.Forall₂ (Agree sqrt)
        (genRun (Gen.ts_sum.step sqrt w (Gen.ts_sum.minPeriods w mp)) (Gen.ts_sum.init w) (C02Gen.callsOfLogTo xs log))
        ((List.range xs.length).map fun i => Spec.feat .sum w mp (vwin (xs.map some) i w))) ∧
    (∃ log, GenDrv.rolling_apply.run xs.length w = some log ∧
      List.Forall₂ (Agree sqrt)
        (genRun (Gen.ts_sum.step sqrt w (Gen.ts_sum.minPeriods w mp)) (Gen.ts_sum.init w) (C02Gen.callsOfLogIter xs log))
        ((List.range xs.length).map fun i => Spec.feat .sum w mp (vwin (xs.map some) i w))) :=
  C02Gen.e2e_apply (fun cs => List.Forall₂ (Agree sqrt) (genRun _ _ cs) _) xs w hw
    (ts_sum_exact sqrt .to xs w mp hw) (ts_sum_exact sqrt .iter xs w mp hw)

def R_ts_mean (g : Gen.ts_mean.St) (m : Mom) : Prop := g.sum = m.s1 ∧ g.n = m.n
theorem ts_mean_step (sqrt : Rat → Rat) (w mp : Nat) (g : Gen.ts_mean.St) (m : Mom) (rm : Option (Rat)) (v : Rat) (h : R_ts_mean g m) :
    R_ts_mean (Gen.ts_mean.step sqrt w mp g rm v).1 ((momRoll (emitMean mp)).step m (rm.map some) (some v)).1 ∧
    (Agree sqrt) (Gen.ts_mean.step sqrt w mp g rm v).2 ((momRoll (emitMean mp)).step m (rm.map some) (some v)).2 :=
  hstep_of_parts some _ _ _ _ _ (momRoll (emitMean mp)) R_ts_mean (Agree sqrt) (Gen.ts_mean.step_eq sqrt w mp) (Gen.ts_mean.pre_eq sqrt w mp)
    (fun g m v ⟨h0, h1⟩ => by
      simp only [Gen.ts_mean.add, momRoll, Mom.add, R_ts_mean, h0, h1, pow_two, true_and, and_true] <;> try ring)
    (fun g m x ⟨h0, h1⟩ => by
      simp only [Gen.ts_mean.post, momRoll, Mom.remove, R_ts_mean, h0, h1, pow_two, true_and, and_true] <;> try ring)
    (fun _ => rfl) (fun g m v h => ts_vmean_emit sqrt w mp ⟨g.sum, g.n⟩ m (some v) h) g m rm v h
theorem ts_mean_minPeriods (w : Nat) (mp : Option Nat) : Gen.ts_mean.minPeriods w mp = effMp mp w Feat.mean.minK :=
  (Nat.max_zero _).symm
theorem ts_mean_exact (sqrt : Rat → Rat) (sh : Shape) (xs : List Rat) (w : Nat) (mp : Option Nat) (hw : 1 ≤ w) :
    List.Forall₂ (Agree sqrt)
      (genRun (Gen.ts_mean.step sqrt w (Gen.ts_mean.minPeriods w mp)) (Gen.ts_mean.init w) (applyCalls sh xs w))
      ((List.range xs.length).map fun i => Spec.feat .mean w mp (vwin (xs.map some) i w)) :=
  exact_of_step some .mean w mp (fun m => momRoll (emitMean m)) Mom.zero R_ts_mean (ts_mean_minPeriods w mp)
    (ts_mean_step sqrt w _) ⟨rfl, rfl⟩ (fun _ _ => rfl) sh xs _ rfl hw
theorem ts_mean_from_source (sqrt : Rat → Rat) (xs : List Rat) (w : Nat) (mp : Option Nat) (hw : 1 ≤ w) :
    (∃ log, GenDrv.rolling_apply_to.run xs.length w = some log ∧
      List.Forall₂ (Agree sqrt)
        (genRun (Gen.ts_mean.step sqrt w (Gen.ts_mean.minPeriods w mp)) (Gen.ts_mean.init w) (C02Gen.callsOfLogTo xs log))
        ((List.range xs.length).map fun i => Spec.feat .mean w mp (vwin (xs.map some) i w))) ∧
    (∃ log, GenDrv.rolling_apply.run xs.length w = some log ∧
      List.Forall₂ (Agree sqrt)
        (genRun (Gen.ts_mean.step sqrt w (Gen.ts_mean.minPeriods w mp)) (Gen.ts_mean.init w) (C02Gen.callsOfLogIter xs log))
        ((List.range xs.length).map fun i => Spec.feat .mean w mp (vwin (xs.map some) i w))) :=
  C02Gen.e2e_apply (fun cs => List.Forall₂ (Agree sqrt) (genRun _ _ cs) _) xs w hw
    (ts_mean_exact sqrt .to xs w mp hw) (ts_mean_exact sqrt .iter xs w mp hw)

def R_ts_std (g : Gen.ts_std.St) (m : Mom) : Prop := g.sum = m.s1 ∧ g.sum2 = m.s2 ∧ g.n = m.n
theorem ts_std_add (w mp : Nat) (g : Gen.ts_std.St) (m : Mom) (v : Rat) (h : R_ts_std g m) :
    R_ts_std (Gen.ts_std.add w g v) ((momRoll (emitStd mp)).add m (some v)) := by
  obtain ⟨h0, h1, h2⟩ := h
  simp only [Gen.ts_std.add, momRoll, Mom.add, R_ts_std, h0, h1, h2, pow_two, true_and, and_true] <;> try ring
theorem ts_std_step (sqrt : Rat → Rat) (w mp : Nat) (g : Gen.ts_std.St) (m : Mom) (rm : Option (Rat)) (v : Rat) (h : R_ts_std g m) :
    R_ts_std (Gen.ts_std.step sqrt w mp g rm v).1 ((momRoll (emitStd mp)).step m (rm.map some) (some v)).1 ∧
    (Agree sqrt) (Gen.ts_std.step sqrt w mp g rm v).2 ((momRoll (emitStd mp)).step m (rm.map some) (some v)).2 :=
  hstep_of_parts some _ _ _ _ _ (momRoll (emitStd mp)) R_ts_std (Agree sqrt) (Gen.ts_std.step_eq sqrt w mp) (Gen.ts_std.pre_eq sqrt w mp)
    (ts_std_add w mp) (fun g m x ⟨h0, h1, h2⟩ => by
      simp only [Gen.ts_std.post, momRoll, Mom.remove, R_ts_std, h0, h1, h2, pow_two, true_and, and_true] <;> try ring)
    (fun _ => rfl) (fun g m v h => ts_vstd_emit sqrt w mp ⟨g.sum, g.sum2, g.n⟩ m (some v) h) g m rm v h
theorem ts_std_minPeriods (w : Nat) (mp : Option Nat) : Gen.ts_std.minPeriods w mp = effMp mp w Feat.std.minK := rfl
theorem ts_std_exact (sqrt : Rat → Rat) (sh : Shape) (xs : List Rat) (w : Nat) (mp : Option Nat) (hw : 1 ≤ w) :
    List.Forall₂ (Agree sqrt)
      (genRun (Gen.ts_std.step sqrt w (Gen.ts_std.minPeriods w mp)) (Gen.ts_std.init w) (applyCalls sh xs w))
      ((List.range xs.length).map fun i => Spec.feat .std w mp (vwin (xs.map some) i w)) :=
  exact_of_step some .std w mp (fun m => momRoll (emitStd m)) Mom.zero R_ts_std (ts_std_minPeriods w mp)
    (ts_std_step sqrt w _) ⟨rfl, rfl, rfl⟩ (fun _ _ => rfl) sh xs _ rfl hw
theorem ts_std_from_source (sqrt : Rat → Rat) (xs : List Rat) (w : Nat) (mp : Option Nat) (hw : 1 ≤ w) :
    (∃ log, GenDrv.rolling_apply_to.run xs.length w = some log ∧
      List.Forall₂ (Agree sqrt)
        (genRun (Gen.ts_std.step sqrt w (Gen.ts_std.minPeriods w mp)) (Gen.ts_std.init w) (C02Gen.callsOfLogTo xs log))
        ((List.range xs.length).map fun i => Spec.feat .std w mp (vwin (xs.map some) i w))) ∧
    (∃ log, GenDrv.rolling_apply.run xs.length w = some log ∧
      List.Forall₂ (Agree sqrt)
        (genRun (Gen.ts_std.step sqrt w (Gen.ts_std.minPeriods w mp)) (Gen.ts_std.init w) (C02Gen.callsOfLogIter xs log))
        ((List.range xs.length).map fun i => Spec.feat .std w mp (vwin (xs.map some) i w))) :=
  C02Gen.e2e_apply (fun cs => List.Forall₂ (Agree sqrt) (genRun _ _ cs) _) xs w hw
    (ts_std_exact sqrt .to xs w mp hw) (ts_std_exact sqrt .iter xs w mp hw)

def R_ts_var (g : Gen.ts_var.St) (m : Mom) : Prop := g.sum = m.s1 ∧ g.sum2 = m.s2 ∧ g.n = m.n
theorem ts_var_step (sqrt : Rat → Rat) (w mp : Nat) (g : Gen.ts_var.St) (m : Mom) (rm : Option (Rat)) (v : Rat) (h : R_ts_var g m) :
    R_ts_var (Gen.ts_var.step sqrt w mp g rm v).1 ((momRoll (emitVar mp)).step m (rm.map some) (some v)).1 ∧
    (Agree sqrt) (Gen.ts_var.step sqrt w mp g rm v).2 ((momRoll (emitVar mp)).step m (rm.map some) (some v)).2 :=
  hstep_of_parts some _ _ _ _ _ (momRoll (emitVar mp)) R_ts_var (Agree sqrt) (Gen.ts_var.step_eq sqrt w mp) (Gen.ts_var.pre_eq sqrt w mp)
    (fun g m v ⟨h0, h1, h2⟩ => by
      simp only [Gen.ts_var.add, momRoll, Mom.add, R_ts_var, h0, h1, h2, pow_two, true_and, and_true] <;> try ring)
    (fun g m x ⟨h0, h1, h2⟩ => by
      simp only [Gen.ts_var.post, momRoll, Mom.remove, R_ts_var, h0, h1, h2, pow_two, true_and, and_true] <;> try ring)
    (fun _ => rfl) (fun g m v h => ts_vvar_emit sqrt w mp ⟨g.sum, g.sum2, g.n⟩ m (some v) h) g m rm v h
theorem ts_var_minPeriods (w : Nat) (mp : Option Nat) : Gen.ts_var.minPeriods w mp = effMp mp w Feat.var.minK := rfl
theorem ts_var_exact (sqrt : Rat → Rat) (sh : Shape) (xs : List Rat) (w : Nat) (mp : Option Nat) (hw : 1 ≤ w) :
    List.Forall₂ (Agree sqrt)
      (genRun (Gen.ts_var.step sqrt w (Gen.ts_var.minPeriods w mp)) (Gen.ts_var.init w) (applyCalls sh xs w))
      ((List.range xs.length).map fun i => Spec.feat .var w mp (vwin (xs.map some) i w)) :=
  exact_of_step some .var w mp (fun m => momRoll (emitVar m)) Mom.zero R_ts_var (ts_var_minPeriods w mp)
    (ts_var_step sqrt w _) ⟨rfl, rfl, rfl⟩ (fun _ _ => rfl) sh xs _ rfl hw
theorem ts_var_from_source (sqrt : Rat → Rat) (xs : List Rat) (w : Nat) (mp : Option Nat) (hw : 1 ≤ w) :
    (∃ log, GenDrv.rolling_apply_to.run xs.length w = some log ∧
      List.Forall₂ (Agree sqrt)
        (genRun (Gen.ts_var.step sqrt w (Gen.ts_var.minPeriods w mp)) (Gen.ts_var.init w) (C02Gen.callsOfLogTo xs log))
        ((List.range xs.length).map fun i => Spec.feat .var w mp (vwin (xs.map some) i w))) ∧
    (∃ log, GenDrv.rolling_apply.run xs.length w = some log ∧
      List.Forall₂ (Agree sqrt)
        (genRun (Gen.ts_var.step sqrt w (Gen.ts_var.minPeriods w mp)) (Gen.ts_var.init w) (C02Gen.callsOfLogIter xs log))
        ((List.range xs.length).map fun i => Spec.feat .var w mp (vwin (xs.map some) i w))) :=
  C02Gen.e2e_apply (fun cs => List.Forall₂ (Agree sqrt) (genRun _ _ cs) _) xs w hw
    (ts_var_exact sqrt .to xs w mp hw) (ts_var_exact sqrt .iter xs w mp hw)

def R_ts_skew (g : Gen.ts_skew.St) (m : Mom) : Prop := g.sum = m.s1 ∧ g.sum2 = m.s2 ∧ g.sum3 = m.s3 ∧ g.n = m.n
theorem ts_skew_step (sqrt : Rat → Rat) (w mp : Nat) (g : Gen.ts_skew.St) (m : Mom) (rm : Option (Rat)) (v : Rat) (h : R_ts_skew g m) :
    R_ts_skew (Gen.ts_skew.step sqrt w mp g rm v).1 ((momRoll (emitSkew mp)).step m (rm.map some) (some v)).1 ∧
    AgreeW (Gen.ts_skew.step sqrt w mp g rm v).2 ((momRoll (emitSkew mp)).step m (rm.map some) (some v)).2 :=
  hstep_of_parts some _ _ _ _ _ (momRoll (emitSkew mp)) R_ts_skew AgreeW (Gen.ts_skew.step_eq sqrt w mp) (Gen.ts_skew.pre_eq sqrt w mp)
    (fun g m v ⟨h0, h1, h2, h3⟩ => by
      simp only [Gen.ts_skew.add, momRoll, Mom.add, R_ts_skew, h0, h1, h2, h3, pow_two, true_and, and_true] <;> try ring)
    (fun g m x ⟨h0, h1, h2, h3⟩ => by
      simp only [Gen.ts_skew.post, momRoll, Mom.remove, R_ts_skew, h0, h1, h2, h3, pow_two, true_and, and_true] <;> try ring)
    (fun _ => rfl) (fun g m v h => ts_vskew_emit sqrt w mp ⟨g.sum, g.sum2, g.sum3, g.n⟩ m (some v) h) g m rm v h
theorem ts_skew_minPeriods (w : Nat) (mp : Option Nat) : Gen.ts_skew.minPeriods w mp = effMp mp w Feat.skew.minK := rfl
theorem ts_skew_exact (sqrt : Rat → Rat) (sh : Shape) (xs : List Rat) (w : Nat) (mp : Option Nat) (hw : 1 ≤ w) :
    List.Forall₂ AgreeW
      (genRun (Gen.ts_skew.step sqrt w (Gen.ts_skew.minPeriods w mp)) (Gen.ts_skew.init w) (applyCalls sh xs w))
      ((List.range xs.length).map fun i => Spec.feat .skew w mp (vwin (xs.map some) i w)) :=
  exact_of_step some .skew w mp (fun m => momRoll (emitSkew m)) Mom.zero R_ts_skew (ts_skew_minPeriods w mp)
    (ts_skew_step sqrt w _) ⟨rfl, rfl, rfl, rfl⟩ (fun _ _ => rfl) sh xs _ rfl hw
theorem ts_skew_from_source (sqrt : Rat → Rat) (xs : List Rat) (w : Nat) (mp : Option Nat) (hw : 1 ≤ w) :
    (∃ log, GenDrv.rolling_apply_to.run xs.length w = some log ∧
      List.Forall₂ AgreeW
        (genRun (Gen.ts_skew.step sqrt w (Gen.ts_skew.minPeriods w mp)) (Gen.ts_skew.init w) (C02Gen.callsOfLogTo xs log))
        ((List.range xs.length).map fun i => Spec.feat .skew w mp (vwin (xs.map some) i w))) ∧
    (∃ log, GenDrv.rolling_apply.run xs.length w = some log ∧
      List.Forall₂ AgreeW
        (genRun (Gen.ts_skew.step sqrt w (Gen.ts_skew.minPeriods w mp)) (Gen.ts_skew.init w) (C02Gen.callsOfLogIter xs log))
        ((List.range xs.length).map fun i => Spec.feat .skew w mp (vwin (xs.map some) i w))) :=
  C02Gen.e2e_apply (fun cs => List.Forall₂ (AgreeW) (genRun _ _ cs) _) xs w hw
    (ts_skew_exact sqrt .to xs w mp hw) (ts_skew_exact sqrt .iter xs w mp hw)

def R_ts_kurt (g : Gen.ts_kurt.St) (m : Mom) : Prop := g.sum = m.s1 ∧ g.sum2 = m.s2 ∧ g.sum3 = m.s3 ∧ g.sum4 = m.s4 ∧ g.n = m.n
theorem ts_kurt_step (sqrt : Rat → Rat) (w mp : Nat) (g : Gen.ts_kurt.St) (m : Mom) (rm : Option (Rat)) (v : Rat) (h : R_ts_kurt g m) :
    R_ts_kurt (Gen.ts_kurt.step sqrt w mp g rm v).1 ((momRoll (emitKurt mp)).step m (rm.map some) (some v)).1 ∧
    (Agree sqrt) (Gen.ts_kurt.step sqrt w mp g rm v).2 ((momRoll (emitKurt mp)).step m (rm.map some) (some v)).2 :=
  hstep_of_parts some _ _ _ _ _ (momRoll (emitKurt mp)) R_ts_kurt (Agree sqrt) (Gen.ts_kurt.step_eq sqrt w mp) (Gen.ts_kurt.pre_eq sqrt w mp)
    (fun g m v ⟨h0, h1, h2, h3, h4⟩ => by
      simp only [Gen.ts_kurt.add, momRoll, Mom.add, R_ts_kurt, h0, h1, h2, h3, h4, pow_two, true_and, and_true] <;> try ring)
    (fun g m x ⟨h0, h1, h2, h3, h4⟩ => by
      simp only [Gen.ts_kurt.post, momRoll, Mom.remove, R_ts_kurt, h0, h1, h2, h3, h4, pow_two, true_and, and_true] <;> try ring)
    (fun _ => rfl) (fun g m v h => ts_vkurt_emit sqrt w mp ⟨g.sum, g.sum2, g.sum3, g.sum4, g.n⟩ m (some v) h) g m rm v h
theorem ts_kurt_minPeriods (w : Nat) (mp : Option Nat) : Gen.ts_kurt.minPeriods w mp = effMp mp w Feat.kurt.minK := rfl
theorem ts_kurt_exact (sqrt : Rat → Rat) (sh : Shape) (xs : List Rat) (w : Nat) (mp : Option Nat) (hw : 1 ≤ w) :
    List.Forall₂ (Agree sqrt)
      (genRun (Gen.ts_kurt.step sqrt w (Gen.ts_kurt.minPeriods w mp)) (Gen.ts_kurt.init w) (applyCalls sh xs w))
      ((List.range xs.length).map fun i => Spec.feat .kurt w mp (vwin (xs.map some) i w)) :=
  exact_of_step some .kurt w mp (fun m => momRoll (emitKurt m)) Mom.zero R_ts_kurt (ts_kurt_minPeriods w mp)
    (ts_kurt_step sqrt w _) ⟨rfl, rfl, rfl, rfl, rfl⟩ (fun _ _ => rfl) sh xs _ rfl hw
theorem ts_kurt_from_source (sqrt : Rat → Rat) (xs : List Rat) (w : Nat) (mp : Option Nat) (hw : 1 ≤ w) :
    (∃ log, GenDrv.rolling_apply_to.run xs.length w = some log ∧
      List.Forall₂ (Agree sqrt)
        (genRun (Gen.ts_kurt.step sqrt w (Gen.ts_kurt.minPeriods w mp)) (Gen.ts_kurt.init w) (C02Gen.callsOfLogTo xs log))
        ((List.range xs.length).map fun i => Spec.feat .kurt w mp (vwin (xs.map some) i w))) ∧
    (∃ log, GenDrv.rolling_apply.run xs.length w = some log ∧
      List.Forall₂ (Agree sqrt)
        (genRun (Gen.ts_kurt.step sqrt w (Gen.ts_kurt.minPeriods w mp)) (Gen.ts_kurt.init w) (C02Gen.callsOfLogIter xs log))
        ((List.range xs.length).map fun i => Spec.feat .kurt w mp (vwin (xs.map some) i w))) :=
  C02Gen.e2e_apply (fun cs => List.Forall₂ (Agree sqrt) (genRun _ _ cs) _) xs w hw
    (ts_kurt_exact sqrt .to xs w mp hw) (ts_kurt_exact sqrt .iter xs w mp hw)

def R_ts_ewm (g : Gen.ts_ewm.St) (m : Ewm) : Prop := g.n = m.n ∧ g.q_x = m.qx
theorem ts_ewm_step (sqrt : Rat → Rat) (w mp : Nat) (g : Gen.ts_ewm.St) (m : Ewm) (rm : Option (Rat)) (v : Rat) (h : R_ts_ewm g m) :
    R_ts_ewm (Gen.ts_ewm.step sqrt w mp g rm v).1 ((ewmRoll w mp).step m (rm.map some) (some v)).1 ∧
    (Agree sqrt) (Gen.ts_ewm.step sqrt w mp g rm v).2 ((ewmRoll w mp).step m (rm.map some) (some v)).2 :=
  hstep_of_parts some _ _ _ _ _ (ewmRoll w mp) R_ts_ewm (Agree sqrt) (Gen.ts_ewm.step_eq sqrt w mp) (Gen.ts_ewm.pre_eq sqrt w mp)
    (fun g m v ⟨h0, h1⟩ => by
      simp only [Gen.ts_ewm.add, ewmRoll, R_ts_ewm, h0, h1, pow_two, true_and, and_true] <;> try ring)
    (fun g m x ⟨h0, h1⟩ => by
      simp only [Gen.ts_ewm.post, ewmRoll, R_ts_ewm, h0, h1, pow_two, true_and, and_true] <;> try ring)
    (fun _ => rfl) (fun g m v h => ts_vewm_emit sqrt w mp ⟨g.q_x, g.n⟩ m (some v) h) g m rm v h
theorem ts_ewm_minPeriods (w : Nat) (mp : Option Nat) : Gen.ts_ewm.minPeriods w mp = effMp mp w Feat.ewm.minK :=
  (Nat.max_zero _).symm
theorem ts_ewm_exact (sqrt : Rat → Rat) (sh : Shape) (xs : List Rat) (w : Nat) (mp : Option Nat) (hw : 1 ≤ w) :
    List.Forall₂ (Agree sqrt)
      (genRun (Gen.ts_ewm.step sqrt w (Gen.ts_ewm.minPeriods w mp)) (Gen.ts_ewm.init w) (applyCalls sh xs w))
      ((List.range xs.length).map fun i => Spec.feat .ewm w mp (vwin (xs.map some) i w)) :=
  exact_of_step some .ewm w mp (fun m => ewmRoll w m) (⟨0, 0⟩ : Ewm) R_ts_ewm (ts_ewm_minPeriods w mp)
    (ts_ewm_step sqrt w _) ⟨rfl, rfl⟩ (fun _ _ => rfl) sh xs _ rfl hw
theorem ts_ewm_from_source (sqrt : Rat → Rat) (xs : List Rat) (w : Nat) (mp : Option Nat) (hw : 1 ≤ w) :
    (∃ log, GenDrv.rolling_apply_to.run xs.length w = some log ∧
      List.Forall₂ (Agree sqrt)
        (genRun (Gen.ts_ewm.step sqrt w (Gen.ts_ewm.minPeriods w mp)) (Gen.ts_ewm.init w) (C02Gen.callsOfLogTo xs log))
        ((List.range xs.length).map fun i => Spec.feat .ewm w mp (vwin (xs.map some) i w))) ∧
    (∃ log, GenDrv.rolling_apply.run xs.length w = some log ∧
      List.Forall₂ (Agree sqrt)
        (genRun (Gen.ts_ewm.step sqrt w (Gen.ts_ewm.minPeriods w mp)) (Gen.ts_ewm.init w) (C02Gen.callsOfLogIter xs log))
        ((List.range xs.length).map fun i => Spec.feat .ewm w mp (vwin (xs.map some) i w))) :=
  C02Gen.e2e_apply (fun cs => List.Forall₂ (Agree sqrt) (genRun _ _ cs) _) xs w hw
    (ts_ewm_exact sqrt .to xs w mp hw) (ts_ewm_exact sqrt .iter xs w mp hw)

def R_ts_wma (g : Gen.ts_wma.St) (m : Wma) : Prop := g.n = m.n ∧ g.sum = m.sum ∧ g.sum_xt = m.sxt
theorem ts_wma_step (sqrt : Rat → Rat) (w mp : Nat) (g : Gen.ts_wma.St) (m : Wma) (rm : Option (Rat)) (v : Rat) (h : R_ts_wma g m) :
    R_ts_wma (Gen.ts_wma.step sqrt w mp g rm v).1 ((wmaRoll mp).step m (rm.map some) (some v)).1 ∧
    (Agree sqrt) (Gen.ts_wma.step sqrt w mp g rm v).2 ((wmaRoll mp).step m (rm.map some) (some v)).2 :=
  hstep_of_parts some _ _ _ _ _ (wmaRoll mp) R_ts_wma (Agree sqrt) (Gen.ts_wma.step_eq sqrt w mp) (Gen.ts_wma.pre_eq sqrt w mp)
    (fun g m v ⟨h0, h1, h2⟩ => by
      simp only [Gen.ts_wma.add, wmaRoll, R_ts_wma, h0, h1, h2, pow_two, true_and, and_true] <;> try ring)
    (fun g m x ⟨h0, h1, h2⟩ => by
      simp only [Gen.ts_wma.post, wmaRoll, R_ts_wma, h0, h1, h2, pow_two, true_and, and_true] <;> try ring)
    (fun _ => rfl) (fun g m v h => ts_vwma_emit sqrt w mp ⟨g.sum, g.sum_xt, g.n⟩ m (some v) h) g m rm v h
theorem ts_wma_minPeriods (w : Nat) (mp : Option Nat) : Gen.ts_wma.minPeriods w mp = effMp mp w Feat.wma.minK :=
  (Nat.max_zero _).symm
theorem ts_wma_exact (sqrt : Rat → Rat) (sh : Shape) (xs : List Rat) (w : Nat) (mp : Option Nat) (hw : 1 ≤ w) :
    List.Forall₂ (Agree sqrt)
      (genRun (Gen.ts_wma.step sqrt w (Gen.ts_wma.minPeriods w mp)) (Gen.ts_wma.init w) (applyCalls sh xs w))
      ((List.range xs.length).map fun i => Spec.feat .wma w mp (vwin (xs.map some) i w)) :=
  exact_of_step some .wma w mp (fun m => wmaRoll m) (⟨0, 0, 0⟩ : Wma) R_ts_wma (ts_wma_minPeriods w mp)
    (ts_wma_step sqrt w _) ⟨rfl, rfl, rfl⟩ (fun _ _ => rfl) sh xs _ rfl hw
theorem ts_wma_from_source (sqrt : Rat → Rat) (xs : List Rat) (w : Nat) (mp : Option Nat) (hw : 1 ≤ w) :
    (∃ log, GenDrv.rolling_apply_to.run xs.length w = some log ∧
      List.Forall₂ (Agree sqrt)
        (genRun (Gen.ts_wma.step sqrt w (Gen.ts_wma.minPeriods w mp)) (Gen.ts_wma.init w) (C02Gen.callsOfLogTo xs log))
        ((List.range xs.length).map fun i => Spec.feat .wma w mp (vwin (xs.map some) i w))) ∧
    (∃ log, GenDrv.rolling_apply.run xs.length w = some log ∧
      List.Forall₂ (Agree sqrt)
        (genRun (Gen.ts_wma.step sqrt w (Gen.ts_wma.minPeriods w mp)) (Gen.ts_wma.init w) (C02Gen.callsOfLogIter xs log))
        ((List.range xs.length).map fun i => Spec.feat .wma w mp (vwin (xs.map some) i w))) :=
  C02Gen.e2e_apply (fun cs => List.Forall₂ (Agree sqrt) (genRun _ _ cs) _) xs w hw
    (ts_wma_exact sqrt .to xs w mp hw) (ts_wma_exact sqrt .iter xs w mp hw)
/-- all 16 entry points of features.rs were found and translated (a closure outside the translator's
subset is emitted without `step`, which breaks the theorems above; one that disappears breaks this) -/
theorem closures_present :
    ∀ n ∈ ["ts_vsum", "ts_vmean", "ts_vewm", "ts_vwma", "ts_vstd", "ts_vvar", "ts_vskew", "ts_vkurt",
           "ts_sum", "ts_mean", "ts_ewm", "ts_wma", "ts_std", "ts_var", "ts_skew", "ts_kurt"], n ∈ Gen.closures := by
  -- one membership per name, each found by walking down `Gen.closures` (string literals compared as
  -- literals; deciding the membership compares them character by character)
  simp only [List.forall_mem_cons, List.not_mem_nil, false_imp_iff, implies_true, and_true]
  repeat' constructor
  all_goals repeat (first | exact List.Mem.head _ | apply List.Mem.tail)
end Tv.C01Gen
