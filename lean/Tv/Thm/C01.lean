import Tv.Lemmas.Fdiff
import Tv.Lemmas.Local
import Tv.Model.MaskTable
import Tv.Generated
/-!
# C01 — rolling moments and weighted averages equal from-scratch window evaluation

`tsFeat f sh xs w mp` is the model of the 16 entry points `ts_v{sum,mean,ewm,wma,std,var,skew,kurt}`
and their plain `ts_*` twins (same closures, null-free input) under either driver shape.
`Spec.feat f w mp l` is the statistic evaluated from scratch on the non-null window contents.
All statements hold for every series, every window `w ≥ 1`, every `min_periods`, every
position — no bound on the length of the add/remove history.
-/
namespace Tv.C01
open Tv

/-- **Main theorem.** Output `i` of every rolling feature equals the statistic evaluated from
scratch on the non-null elements at positions `max(0,i-w+1) ..= i`; the output has the length
of the input. Holds for both driver shapes (Vec/ndarray fast path, default iterator path). -/
theorem tsFeat_exact (f : Feat) (sh : Shape) (xs : List (Option Rat)) (w : Nat) (mp : Option Nat)
    (hw : 1 ≤ w) :
    tsFeat f sh xs w mp = (List.range xs.length).map (fun i => Spec.feat f w mp (vwin xs i w)) := by
  have hk : ∀ k, k ≤ effMp mp w k := fun k => Nat.le_max_right _ _
  cases f <;> simp only [tsFeat, Spec.feat, Feat.minK]
  · exact momRoll_exact _ _ (emitSum_spec _) sh xs w hw
  · exact momRoll_exact _ _ (emitMean_spec _) sh xs w hw
  · exact C02.run_applyCalls (ewmRoll w (effMp mp w 0)) (EwmInv (1 - 2 / (w : Rat)))
      (fun q => Spec.tsEwm w (effMp mp w 0) (valid q)) ⟨rfl, rfl⟩
      (fun s q v hi => ewmInv_add w _ s q v hi) (fun s x q hi => ewmInv_remove w _ s x q hi)
      (fun s q hi => ewm_emit w _ hw s q hi) sh xs w hw
  · exact C02.run_applyCalls (wmaRoll (effMp mp w 0)) WmaInv
      (fun q => Spec.tsWma (effMp mp w 0) (valid q)) ⟨rfl, rfl, rfl⟩
      (fun s q v hi => wmaInv_add _ s q v hi) (fun s x q hi => wmaInv_remove _ s x q hi)
      (fun s q hi => wma_emit _ s q hi) sh xs w hw
  · exact momRoll_exact _ _ (emitStd_spec _ (hk 2)) sh xs w hw
  · exact momRoll_exact _ _ (emitVar_spec _ (hk 2)) sh xs w hw
  · exact momRoll_exact _ _ (emitSkew_spec _ (hk 3)) sh xs w hw
  · exact momRoll_exact _ _ (emitKurt_spec _ (hk 4)) sh xs w hw

/-- **fractional differencing, null-aware**: output `i` is `Σ_k (-1)^k C(d,k) x_(k)` over the
non-null elements of the window, `x_(k)` the k-th most recent one (null below `min_periods`) -/
theorem tsVfdiff_exact (sh : Shape) (d : Rat) (xs : List (Option Rat)) (w : Nat) (mp : Option Nat)
    (hw : 1 ≤ w) :
    tsVfdiff sh d xs w mp
      = (List.range xs.length).map (fun i => Spec.tsVfdiff d (effMp mp w 0) (vwin xs i w)) := by
  unfold tsVfdiff
  rw [C02.customCalls_spec sh xs w hw, List.map_map]
  apply List.map_congr_left
  intro i _
  have hm : effMp mp w 0 ≤ w := by unfold effMp; omega
  exact vfdiffEmit_spec d w _ _ (window_length_le xs i w) hm

/-- **fractional differencing, plain** (the code after the repair of finding F33, see
`fdiffEmit_spec`) -/
theorem tsFdiff_exact (sh : Shape) (d : Rat) (xs : List Rat) (w : Nat) (hw : 1 ≤ w) :
    tsFdiff sh d xs w = (List.range xs.length).map (fun i => Spec.tsFdiff d (window xs i w)) := by
  unfold tsFdiff
  rw [C02.customCalls_spec sh xs w hw, List.map_map]
  apply List.map_congr_left
  intro i _
  exact fdiffEmit_spec d w _ (window_length_le xs i w)

/-- the generalized binomial of the model is the product formula `Π_{j<k} (d-j)/(j+1)`
(`gbinom_eq`, stated under this property) -/
theorem gbinom_product (d : Rat) (k : Nat) : Tv.gbinom d k = Spec.gbinom d k := gbinom_eq d k

/-- `fdiff_coef(d, w)` stores `(-1)^(w-1-j) C(d, w-1-j)` at position `j` (`fdiffCoef_eq`, stated
under this property; `fcoef d k = gbinom d k * (-1)^k`, Lemmas/Fdiff.lean) -/
theorem fdiffCoef_spec (d : Rat) (w : Nat) : fdiffCoef d w = (List.range w).reverse.map (fcoef d) :=
  fdiffCoef_eq d w

theorem tsFeat_length (f : Feat) (sh : Shape) (xs : List (Option Rat)) (w : Nat) (mp : Option Nat)
    (hw : 1 ≤ w) : (tsFeat f sh xs w mp).length = xs.length := by
  rw [tsFeat_exact f sh xs w mp hw]; simp

/-- the two driver shapes (Vec fast path / default path) give identical results -/
theorem tsFeat_shape_indep (f : Feat) (xs : List (Option Rat)) (w : Nat) (mp : Option Nat) (hw : 1 ≤ w) :
    tsFeat f .to xs w mp = tsFeat f .iter xs w mp := by
  rw [tsFeat_exact f .to xs w mp hw, tsFeat_exact f .iter xs w mp hw]

/-- **no drift**: one slide of a full window (add `v`, remove the oldest `x`) keeps the state the
power sums of exactly the window contents (`MomInv`); iterated over the positions by
`run_refines_from`, this invariant is what `tsFeat_exact` rests on. -/
theorem mom_state_is_window (s : Mom) (q : List (Option Rat)) (v : Option Rat) (x : Option Rat)
    (h : MomInv s (x :: q)) : MomInv ((s.add v).remove x) (q ++ [v]) :=
  momInv_remove _ x _ (by simpa using momInv_add s (x :: q) v h)

/-- the sample-variance spec is the textbook `Σ(x-mean)²/(n-1)` whenever the documented EPS floor
does not apply (population variance 0 or above EPS) -/
theorem specVar_textbook (l : List Rat) (mp : Nat) (hn : 2 ≤ l.length) (hmp : mp ≤ l.length)
    (h : Spec.cmom 2 l = 0 ∨ Spec.cmom 2 l > Spec.EPS) :
    Spec.tsVar mp l = .val (Spec.csum 2 (Spec.mean l) l / ((l.length : Rat) - 1)) := by
  have hn0 := cast_len_ne_zero (show 1 ≤ l.length by omega)
  simp only [Spec.tsVar, Spec.masked, ge_iff_le, hmp, if_true]
  rcases h with h | h
  · have : Spec.cmom 2 l ≤ Spec.EPS := by rw [h]; unfold Spec.EPS; norm_num
    simp only [this, if_true]
    have hc : Spec.csum 2 (Spec.mean l) l = 0 := by
      unfold Spec.cmom at h
      rcases div_eq_zero_iff.mp h with h | h
      · exact h
      · exact absurd h hn0
    rw [hc]; simp
  · have : ¬ Spec.cmom 2 l ≤ Spec.EPS := not_le.mpr h
    have h1 : l.length ≠ 1 := by omega
    simp [this, h1]

/-- the translator's EPS is the model's: the literal is `Tv.EPS` of Model/Features.lean written as a
pair, since `decide` does not evaluate `Rat` -/
theorem eps_matches : (Generated.epsNum, Generated.epsDen) = (1, 100000000000000) := by decide

/-- the `.max(k)` and the driver of each of the 16 entry points are those of the translator's table -/
theorem minK_in_table (f : Feat) :
    ((Model.featNames f).1, true, false, f.minK, "rolling_apply", "std") ∈ Generated.maskTable ∧
    ((Model.featNames f).2, true, false, f.minK, "rolling_apply", "std") ∈ Generated.maskTable := by
  -- each row is found by walking down the table (comparing string literals as literals; deciding
  -- the membership would compare them character by character)
  cases f <;> constructor <;> repeat (first | exact List.Mem.head _ | apply List.Mem.tail)

/-! ### non-vacuity: a concrete series with nulls -/
example : tsFeat .sum .to [some 1, none, some (3/2), some (-4)] 3 (some 2)
    = [.null, .null, .val (5/2), .val (-5/2)] := by decide +kernel

end Tv.C01
