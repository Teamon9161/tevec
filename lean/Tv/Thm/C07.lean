import Tv.Model.View
import Tv.Thm.C01
/-!
# C07 — results are independent of input backend, output container and out-buffer path

1. Each backend adapter is *coherent*: its accessors all describe one logical sequence.
2. The generic algorithms observe a container only through those accessors, and both code
   shapes a backend may select (fast `*_to` path, default iterator path; returned or written
   into a caller buffer) produce the same result (`C01.tsFeat_shape_indep`, `C02`).
Hence every (backend, output container, path) cell equals the single model result; the
correspondence run checks exactly that on the real code.
-/
namespace Tv.C07
open Tv

theorem coherent_vec (xs : List α) : Coherent (vecView xs) xs :=
  ⟨rfl, fun _ _ => rfl, rfl, fun _ _ _ _ => rfl, fun s h => by simpa [vecView] using h.symm⟩

/-- a ring buffer whose live region fits the capacity -/
def RingWF (r : Ring α) : Prop := r.len ≤ r.cap ∧ (r.len = 0 ∨ r.head < r.cap)

/-! Both adapters list `i ↦ f i` over `0..len` with `f` defined on every logical position;
`listing_length`, `listing_get` and `listing_contiguous` are all the coherence proofs need of such
a listing. -/

theorem map_some_filterMap (f : Nat → Option α) (l : List Nat) (h : ∀ i ∈ l, (f i).isSome) :
    (l.filterMap f).map some = l.map f := by
  induction l with
  | nil => rfl
  | cons a l ih =>
    obtain ⟨v, hv⟩ := Option.isSome_iff_exists.mp (h a List.mem_cons_self)
    rw [List.filterMap_cons_some hv, List.map_cons, List.map_cons, hv,
      ih fun i hi => h i (List.mem_cons_of_mem _ hi)]

theorem listing_length (f : Nat → Option α) (n : Nat) (h : ∀ i, i < n → (f i).isSome) :
    ((List.range n).filterMap f).length = n := by
  rw [length_filterMap_of_isSome fun i hi => h i (List.mem_range.1 hi), List.length_range]

theorem listing_get (f : Nat → Option α) (n : Nat) (h : ∀ i, i < n → (f i).isSome) (i : Nat) (hi : i < n) :
    ((List.range n).filterMap f)[i]? = f i := by
  have := congrArg (·[i]?) (map_some_filterMap f (List.range n) fun i hi => h i (List.mem_range.1 hi))
  simp only [List.getElem?_map, List.getElem?_range hi, Option.map_some] at this
  cases hx : ((List.range n).filterMap f)[i]? with
  | none => rw [hx] at this; cases this
  | some v => rw [hx] at this; exact Option.some.inj this

/-- a listing that reads the consecutive positions `a, a+1, …` of `l` is that stretch of `l` -/
theorem listing_contiguous (l : List α) (a n : Nat) (f : Nat → Option α)
    (h : ∀ i, i < n → (f i).isSome) (hf : ∀ i, i < n → f i = l[a + i]?) :
    l.extract a (a + n) = (List.range n).filterMap f := by
  apply List.ext_getElem?
  intro i
  rw [List.extract_eq_take_drop, List.getElem?_take, List.getElem?_drop, Nat.add_sub_cancel_left]
  by_cases hi : i < n
  · rw [if_pos hi, listing_get f n h i hi, hf i hi]
  · rw [if_neg hi, List.getElem?_eq_none (by rw [listing_length f n h]; exact Nat.le_of_not_lt hi)]

theorem ring_defined (r : Ring α) (h : RingWF r) (i : Nat) (hi : i < r.len) : (r.buf[r.phys i]?).isSome := by
  have hcap : 0 < r.cap := Nat.lt_of_lt_of_le (Nat.zero_lt_of_lt hi) h.1
  rw [List.getElem?_eq_getElem (show r.phys i < r.buf.length from Nat.mod_lt _ hcap)]; rfl

/-- **VecDeque adapter**, any ring-buffer rotation (wrapped or contiguous) -/
theorem coherent_vecdeque (r : Ring α) (h : RingWF r) : Coherent (ringView r) r.toList := by
  have hlen : r.toList.length = r.len := listing_length _ _ (ring_defined r h)
  refine ⟨hlen.symm, ?_, rfl, fun _ _ _ _ => rfl, ?_⟩
  · intro i hi
    rw [hlen] at hi
    simp only [ringView, hi, if_true]
    exact (listing_get _ _ (ring_defined r h) i hi).symm
  · intro s hs
    simp only [ringView] at hs
    split at hs
    · rename_i hc
      injection hs with hs
      rw [← hs]
      -- the live region does not wrap: position `i` is stored at `head + i`
      exact listing_contiguous _ _ _ _ (ring_defined r h) fun i hi => by
        rw [Ring.phys, Nat.mod_eq_of_lt (Nat.lt_of_lt_of_le (Nat.add_lt_add_left hi _) hc)]
    · cases hs

/-- every logical position of a strided view lies inside its base storage -/
def StridedWF (s : Strided α) : Prop := ∀ i, i < s.len → (s.at i).isSome

/-- standard layout: logical position `i` is stored at `off + i` -/
theorem strided_at_unit (s : Strided α) (hs : s.stride = 1) (i : Nat) : s.at i = s.base[s.off + i]? := by
  have e : s.phys i = ((s.off + i : Nat) : Int) := by rw [Strided.phys, hs, Int.mul_one, Int.natCast_add]
  rw [Strided.at]
  simp only [e]
  rw [if_neg (Int.not_lt.2 (Int.natCast_nonneg _)), Int.toNat_natCast]

/-- **ndarray adapter (repaired `try_as_slice`)**: owned arrays and borrowed / strided /
reversed views; the contiguous view is offered only in standard layout. `h2` leaves out the views
of at most one element with a stride other than 1: the model offers them a contiguous view too
(`s.len ≤ 1` in `stridedView`), and the proof below treats the unit-stride case only. -/
theorem coherent_ndarray (s : Strided α) (h : StridedWF s) (h2 : 2 ≤ s.len ∨ s.stride = 1) :
    Coherent (stridedView false s) s.toList := by
  have hlen : s.toList.length = s.len := listing_length _ _ h
  refine ⟨hlen.symm, ?_, rfl, fun _ _ _ _ => rfl, ?_⟩
  · intro i hi
    rw [hlen] at hi
    exact (listing_get _ _ h i hi).symm
  · intro t ht
    simp only [stridedView] at ht
    split at ht
    · rename_i hc
      injection ht with ht
      have h1 : s.stride = 1 := by
        rcases hc with hc | hc
        · exact hc
        · rcases h2 with h2 | h2
          · omega
          · exact h2
      rw [← ht]
      exact listing_contiguous _ _ _ _ h fun i _ => strided_at_unit s h1 i
    · simp at ht

/-- the pinned `as_slice_memory_order` offers a *reversed* view the reverse of its logical
sequence (finding F32): concrete witness -/
theorem ndarray_pinned_wrong :
    let s : Strided Nat := ⟨[10, 11, 12], 2, -1, 3⟩
    s.toList = [12, 11, 10] ∧ (stridedView true s).asSlice = some [10, 11, 12] := by decide

theorem coherent_arc (v : View α) (xs : List α) (h : Coherent v xs) : Coherent (arcView v) xs := h

/-- **option view**: describes the decoded sequence, offers no contiguous view -/
theorem coherent_opt (toOpt : α → Option β) (v : View α) (xs : List α) (h : Coherent v xs) :
    Coherent (optView toOpt v) (xs.map toOpt) := by
  refine ⟨by simp [optView, h.len], ?_, by simp [optView, h.iter], ?_, by simp [optView]⟩
  · intro i hi
    have hi' : i < xs.length := by simpa using hi
    simp [optView, h.get i hi']
  · intro a b hab hb
    have hb' : b ≤ xs.length := by simpa using hb
    simp only [optView, h.slice a b hab hb']
    simp [List.extract_eq_take_drop, List.map_take, List.map_drop]

/-- **checked get**: in bounds it is the element, out of bounds `none` (the `Err` of `get` in
view.rs) -/
theorem get_spec (v : View α) (xs : List α) (h : Coherent v xs) (i : Nat) :
    v.get i = xs[i]? := by
  unfold View.get
  rw [h.len]
  by_cases hi : i < xs.length
  · simp [hi, h.get i hi]
  · simp [hi, List.getElem?_eq_none (Nat.le_of_not_lt hi)]

/-- any algorithm written against the accessors gives the same answer on coherent views of the
same sequence (Vec, VecDeque in any rotation, ndarray views, Arc, ...) -/
theorem algo_view_indep (algo : Nat → (Nat → Option α) → List α → β) (v v' : View α) (xs : List α)
    (h : Coherent v xs) (h' : Coherent v' xs)
    (hlocal : ∀ n g g' l, (∀ i, i < n → g i = g' i) → algo n g l = algo n g' l) :
    algo v.len v.uget v.iter = algo v'.len v'.uget v'.iter := by
  rw [h.len, h'.len, h.iter, h'.iter]
  apply hlocal
  intro i hi
  rw [h.get i hi, h'.get i hi]

/-- returned path = caller-buffer path, fast path = default path, for every rolling feature
(`C01.tsFeat_shape_indep`, stated again under this property) -/
theorem feat_path_indep (f : Feat) (xs : List (Option Rat)) (w : Nat) (mp : Option Nat) (hw : 1 ≤ w) :
    tsFeat f .to xs w mp = tsFeat f .iter xs w mp := C01.tsFeat_shape_indep f xs w mp hw

example : RingWF (⟨[3, 4, 1, 2], 2, 4⟩ : Ring Nat) := by unfold RingWF Ring.cap; decide
example : (⟨[3, 4, 1, 2], 2, 4⟩ : Ring Nat).toList = [1, 2, 3, 4] := by decide
example : (ringView (⟨[3, 4, 1, 2], 2, 4⟩ : Ring Nat)).asSlice = none := by decide

end Tv.C07
