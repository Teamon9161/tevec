import Tv.Lemmas.C13
/-!
  # C13 — element-wise mapping operations follow their positional definitions

  Model: `Tv/Model/C13MapOps.lean` (the iterator constructions of tea-map as written, with
  the `fix:` commits for F12 / F16 / F17 applied); spec: `Tv/Spec/C13.lean`.

  All theorems hold for every series, every null pattern, every lag `n : Int` (hence every
  `i32`, including `|n| > len`, `i32::MIN`, `i32::MAX`), every fill value (null or not) and
  every pair of bounds. Positions are `Nat`, operand positions `(i : Int) - n`.
-/
namespace Tv.C13
open Spec

/-! ## the operations are their positional definitions

A lagged operation is the skeleton of `lag_eq_mapIdx` with its own front- and back-padded list, a
fill is the closure `fillGo` in closed form, `vclip` is one function of the bounds per element;
lengths and the value at a position are then read off the positional definition. -/

/-- model = from-scratch specification on all inputs: this and the other `*_eq_*S` theorems
(`vshift`, `vdiff`, `vpct`, `ffill`, `bfill`, `fill`, `abs`) -/
theorem shift_eq_shiftS (n : Int) (v : α) (xs : List α) : shift n v xs = shiftS n v xs := by
  refine lag_eq_mapIdx (fun o _ => o.getD v) v (fun _ => rfl) n xs _ _ (fun _ _ => ?_) (fun h0 _ => ?_)
  · exact congrArg _ (zipWith_left _ _ (by simp)).symm
  · rw [show (fun (a : α) (_ : α) => (some a).getD v) = fun a _ => a from rfl,
      zipWith_left _ _ (by simp)]
    by_cases hn : n < 0
    · rw [if_pos hn]
    · -- only `n = 0` is left, where the code returns the input itself
      rw [if_neg hn]
      obtain rfl : n = 0 := Int.le_antisymm h0 (Int.not_lt.mp hn)
      exact (List.append_nil xs).symm

theorem vshift_eq_shiftS (n : Int) (value : Option (Option β)) (xs : List (Option β)) :
    vshift n value xs = shiftS n (value.getD none) xs :=
  (vshift_eq_shift n value xs).trans (shift_eq_shiftS n _ xs)

theorem vdiff_eq_diffS (n : Int) (value : Option (Option Rat)) (xs : List (Option Rat)) :
    vdiff n value xs = diffS n (value.getD none) xs := by
  let G (o : Option (Option Rat)) (b : Option Rat) := match o with | none => value.getD none | some a => osub b a
  exact lag_eq_mapIdx G _ (fun _ => rfl) n xs _ _ (fun _ _ => rfl) (fun _ _ => rfl)

theorem vpct_eq_pctS (n : Int) (xs : List (Option Rat)) : vpctChange n xs = pctS n xs := by
  let G (o : Option (Option Rat)) (b : Option Rat) := match o with | none => none | some a => pct a b
  refine (lag_eq_mapIdx G none (fun _ => rfl) n xs _ _
    (fun _ hk => zipWith_replicate_append pct none none (fun _ => rfl) _ _ xs (Nat.le_of_lt hk))
    (fun _ _ => rfl)).trans ?_
  -- `pctS` matches on the operand and the element at once
  unfold pctS
  congr
  funext i b
  rcases opnd xs ((i : Int) - n) with _ | _ | a <;> rcases b with _ | b <;> rfl

theorem ffill_eq_ffillS (mask : Option β → Bool) (value : Option (Option β)) (xs : List (Option β)) :
    ffillMask mask value xs = ffillS mask (value.getD none) xs := by
  unfold ffillMask ffillS
  rw [fillGo_eq_mapIdx]
  simp only [Option.or_none]

/-- the backward pass looks back in the reversed series, which is ahead in the series itself -/
theorem bfill_eq_bfillS (mask : Option β → Bool) (value : Option (Option β)) (xs : List (Option β)) :
    bfillMask mask value xs = bfillS mask (value.getD none) xs := by
  unfold bfillMask bfillS
  rw [fillGo_eq_mapIdx, List.mapIdx_reverse, List.reverse_reverse]
  exact List.mapIdx_eq_mapIdx_iff.mpr fun i hi => by
    rw [List.take_reverse, List.reverse_reverse, Option.or_none, Nat.sub_sub, Nat.add_comm 1 i, Nat.sub_sub_self hi]

/-- the four dispatch branches of `vclip` are one function of the bounds, element by element -/
theorem clip_eq_clipS (lo hi : Option Rat) (xs : List (Option Rat)) : vclip lo hi xs = clipS lo hi xs := by
  unfold vclip clipS
  rcases lo with _ | l <;> rcases hi with _ | h
  · exact (List.map_id'' (fun v => by cases v <;> rfl) xs).symm
  · exact List.map_congr_left fun v _ => by
      cases v
      · rfl
      · exact (apply_ite some _ _ _).symm
  · exact List.map_congr_left fun v _ => by
      cases v
      · rfl
      · exact (apply_ite some _ _ _).symm
  · exact List.map_congr_left fun v _ => by
      rcases v with _ | x
      · rfl
      · -- with both bounds the code tests the lower bound first, the definition clamps from above first
        simp only [Option.map_some, clip1]; grind

/-! ## lengths: every operation returns exactly as many elements as the input -/

/-- `shift` preserves the length for every lag. -/
theorem shift_len (n : Int) (v : α) (xs : List α) : (shift n v xs).length = xs.length := by
  rw [shift_eq_shiftS]; exact List.length_mapIdx

/-- `vshift` preserves the length for every lag and every (optional) fill value. -/
theorem vshift_len (n : Int) (value : Option (Option β)) (xs : List (Option β)) :
    (vshift n value xs).length = xs.length := by
  rw [vshift_eq_shift]; exact shift_len n _ xs

/-- `vdiff` preserves the length. -/
theorem vdiff_len (n : Int) (value : Option (Option Rat)) (xs : List (Option Rat)) :
    (vdiff n value xs).length = xs.length := by
  rw [vdiff_eq_diffS]; exact List.length_mapIdx

/-- `vpct_change` preserves the length. -/
theorem vpct_len (n : Int) (xs : List (Option Rat)) : (vpctChange n xs).length = xs.length := by
  rw [vpct_eq_pctS]; exact List.length_mapIdx

/-- `ffill_mask` / `ffill` preserve the length. -/
theorem ffill_len (mask : Option β → Bool) (value : Option (Option β)) (xs : List (Option β)) :
    (ffillMask mask value xs).length = xs.length ∧ (ffill value xs).length = xs.length := by
  simp [ffill, ffill_eq_ffillS, ffillS]

/-- `bfill_mask` / `bfill` preserve the length (the reverse pass is materialised and reversed back). -/
theorem bfill_len (mask : Option β → Bool) (value : Option (Option β)) (xs : List (Option β)) :
    (bfillMask mask value xs).length = xs.length ∧ (bfill value xs).length = xs.length := by
  simp [bfill, bfill_eq_bfillS, bfillS]

/-- `fill_mask` / `fill` preserve the length. -/
theorem fill_len (mask : Option β → Bool) (value : Option β) (xs : List (Option β)) :
    (fillMask mask value xs).length = xs.length ∧ (fill value xs).length = xs.length := by
  exact ⟨List.length_map .., List.length_map ..⟩

/-- `vclip` preserves the length for every combination of present / null bounds. -/
theorem clip_len (lo hi : Option Rat) (xs : List (Option Rat)) : (vclip lo hi xs).length = xs.length := by
  rw [clip_eq_clipS]; exact List.length_map ..

/-- `abs` and `vabs` preserve the length. -/
theorem abs_len (xs : List (Option Rat)) : (abs xs).length = xs.length ∧ (vabs xs).length = xs.length := by
  exact ⟨List.length_map .., List.length_map ..⟩

/-- Output `i` of `shift n v` is `x[i-n]` when `0 ≤ i-n < len`, else the fill value. -/
theorem shift_get (n : Int) (v : α) (xs : List α) (i : Nat) (hi : i < xs.length) :
    (shift n v xs)[i]? =
      some (if h : 0 ≤ (i : Int) - n ∧ (i : Int) - n < xs.length
            then xs[((i : Int) - n).toNat]'(by omega) else v) := by
  rw [shift_eq_shiftS, shiftS, getElem?_mapIdx_of_lt _ _ _ hi]
  by_cases h : 0 ≤ (i : Int) - n ∧ (i : Int) - n < xs.length
  · rw [dif_pos h, opnd_in xs _ h.1 h.2]; rfl
  · rw [dif_neg h, opnd_out xs _ h]; rfl

/-- `vshift n value` is the same positional function with fill `value.unwrap_or(null)`. -/
theorem vshift_get (n : Int) (value : Option (Option β)) (xs : List (Option β)) (i : Nat)
    (hi : i < xs.length) :
    (vshift n value xs)[i]? =
      some (if h : 0 ≤ (i : Int) - n ∧ (i : Int) - n < xs.length
            then xs[((i : Int) - n).toNat]'(by omega) else value.getD none) := by
  rw [vshift_eq_shift]; exact shift_get n _ xs i hi

/-- Every element moves `n` places: the element at `j` lands at `j+n` whenever that position
exists (towards the end for `n > 0`, towards the start for `n < 0`). -/
theorem shift_moves (n : Int) (v : α) (xs : List α) (j : Nat) (hj : j < xs.length)
    (h0 : 0 ≤ (j : Int) + n) (h1 : (j : Int) + n < xs.length) :
    (shift n v xs)[((j : Int) + n).toNat]? = some xs[j] := by
  rw [shift_eq_shiftS, shiftS, getElem?_mapIdx_of_lt _ _ _ ((Int.toNat_lt h0).mpr h1), Int.toNat_of_nonneg h0,
    Int.add_sub_cancel, opnd_natCast, List.getElem?_eq_getElem hj]
  rfl

/-- The vacated places (those `i` with no source position `i-n`) hold the fill value; in
particular the whole output is the fill value when `|n| ≥ len`. -/
theorem shift_vacated (n : Int) (v : α) (xs : List α) (i : Nat) (hi : i < xs.length)
    (h : (i : Int) - n < 0 ∨ (xs.length : Int) ≤ (i : Int) - n) :
    (shift n v xs)[i]? = some v := by
  rw [shift_get n v xs i hi, dif_neg fun h' =>
    h.elim (fun h1 => Int.not_lt.mpr h'.1 h1) (fun h2 => Int.not_lt.mpr h2 h'.2)]

/-- `osub b a` is `b - a` exactly when both operands are non-null, null otherwise. -/
theorem osub_spec (b a : Option Rat) :
    (∀ x y, b = some x → a = some y → osub b a = some (x - y)) ∧
    (b = none ∨ a = none → osub b a = none) := by
  refine ⟨fun x y hb ha => by subst hb ha; rfl, fun h => ?_⟩
  rcases h with rfl | rfl
  · rfl
  · cases b <;> rfl

/-- `pct a b` is `b / a - 1` exactly when both are non-null and the base `a` is non-zero,
null otherwise (null base, null value, zero base). -/
theorem pct_spec (a b : Option Rat) :
    (∀ x y, a = some x → b = some y → x ≠ 0 → pct a b = some (y / x - 1)) ∧
    (a = none ∨ b = none ∨ a = some 0 → pct a b = none) := by
  refine ⟨fun x y ha hb hx => by subst ha hb; exact if_neg hx, fun h => ?_⟩
  rcases h with rfl | rfl | rfl
  · rfl
  · cases a <;> rfl
  · cases b <;> rfl

/-- Output `i` of `vdiff n value` is `x[i] - x[i-n]` (null if either is null) where the operand
position exists, and the fill value (`value` or null) elsewhere — for every lag, including 0,
where it is `x[i] - x[i]`. -/
theorem vdiff_get (n : Int) (value : Option (Option Rat)) (xs : List (Option Rat)) (i : Nat)
    (hi : i < xs.length) :
    (vdiff n value xs)[i]? =
      some (if h : 0 ≤ (i : Int) - n ∧ (i : Int) - n < xs.length
            then osub xs[i] (xs[((i : Int) - n).toNat]'(by omega)) else value.getD none) := by
  rw [vdiff_eq_diffS, diffS, getElem?_mapIdx_of_lt _ _ _ hi]
  by_cases h : 0 ≤ (i : Int) - n ∧ (i : Int) - n < xs.length
  · rw [dif_pos h, opnd_in xs _ h.1 h.2]; rfl
  · rw [dif_neg h, opnd_out xs _ h]

/-- Output `i` of `vpct_change n` is `x[i] / x[i-n] - 1` where both exist, are non-null and the
base is non-zero, and null elsewhere (`pct_spec`). -/
theorem vpct_get (n : Int) (xs : List (Option Rat)) (i : Nat) (hi : i < xs.length) :
    (vpctChange n xs)[i]? =
      some (if h : 0 ≤ (i : Int) - n ∧ (i : Int) - n < xs.length
            then pct (xs[((i : Int) - n).toNat]'(by omega)) xs[i] else none) := by
  rw [vpct_eq_pctS, pctS, getElem?_mapIdx_of_lt _ _ _ hi]
  by_cases h : 0 ≤ (i : Int) - n ∧ (i : Int) - n < xs.length
  · rw [dif_pos h, opnd_in xs _ h.1 h.2]
    cases xs[((i : Int) - n).toNat]'((Int.toNat_lt h.1).mpr h.2) <;> cases xs[i] <;> rfl
  · rw [dif_neg h, opnd_out xs _ h]

/-! ## forward / backward fill

Stated for an arbitrary mask predicate (`ffill_mask` / `bfill_mask`); `ffill` / `bfill` are
the instances `mask = is_none`, spelled out in `ffill_get` / `bfill_get`. -/

/-- An unmasked element is passed through unchanged by forward and backward fill. -/
theorem fill_keeps_unmasked (mask : Option β → Bool) (value : Option (Option β))
    (xs : List (Option β)) (i : Nat) (hi : i < xs.length) (hm : mask xs[i] = false) :
    (ffillMask mask value xs)[i]? = some xs[i] ∧ (bfillMask mask value xs)[i]? = some xs[i] := by
  simp [ffill_eq_ffillS, bfill_eq_bfillS, ffillS, bfillS, hi, hm]

/-- Forward fill replaces a masked element by the NEAREST EARLIER unmasked element: if `j < i`
is unmasked and everything in `j+1 ..= i` is masked, output `i` is `x[j]`. -/
theorem ffill_get_nearest (mask : Option β → Bool) (value : Option (Option β))
    (xs : List (Option β)) (i j : Nat) (hi : i < xs.length) (hj : j < i)
    (hu : mask (xs[j]'(by omega)) = false)
    (hm : ∀ k (_ : j < k) (h2 : k ≤ i), mask (xs[k]'(by omega)) = true) :
    (ffillMask mask value xs)[i]? = some (xs[j]'(by omega)) := by
  rw [ffill_eq_ffillS, ffillS, getElem?_mapIdx_of_lt _ _ _ hi, if_pos (hm i hj (Nat.le_refl i)),
    find?_reverse_take_skip _ xs (j + 1) i hj (Nat.le_of_lt hi) (fun k h1 h2 => by rw [hm k h1 (Nat.le_of_lt h2)]; rfl),
    find?_reverse_take_succ _ xs j, if_pos (by rw [hu]; rfl)]
  rfl

/-- Forward fill with no earlier unmasked element yields the supplied default (null if omitted). -/
theorem ffill_get_default (mask : Option β → Bool) (value : Option (Option β))
    (xs : List (Option β)) (i : Nat) (hi : i < xs.length)
    (hm : ∀ k (h : k ≤ i), mask (xs[k]'(by omega)) = true) :
    (ffillMask mask value xs)[i]? = some (value.getD none) := by
  rw [ffill_eq_ffillS, ffillS, getElem?_mapIdx_of_lt _ _ _ hi, if_pos (hm i (Nat.le_refl i)),
    find?_reverse_take_skip _ xs 0 i (Nat.zero_le i) (Nat.le_of_lt hi)
      (fun k _ h => by rw [hm k (Nat.le_of_lt h)]; rfl)]
  rfl

/-- Backward fill replaces a masked element by the NEAREST LATER unmasked element. -/
theorem bfill_get_nearest (mask : Option β → Bool) (value : Option (Option β))
    (xs : List (Option β)) (i j : Nat) (hij : i < j) (hj : j < xs.length)
    (hu : mask xs[j] = false)
    (hm : ∀ k (_ : i ≤ k) (h2 : k < j), mask (xs[k]'(by omega)) = true) :
    (bfillMask mask value xs)[i]? = some xs[j] := by
  rw [bfill_eq_bfillS, bfillS, getElem?_mapIdx_of_lt _ _ _ (Nat.lt_trans hij hj), if_pos (hm i (Nat.le_refl i) hij),
    find?_drop_skip _ xs (i + 1) j hij (Nat.le_of_lt hj) (fun k h1 h2 => by rw [hm k (Nat.le_of_lt h1) h2]; rfl),
    List.drop_eq_getElem_cons hj, List.find?_cons_of_pos (by rw [hu]; rfl)]
  rfl

/-- Backward fill with no later unmasked element yields the supplied default (null if omitted). -/
theorem bfill_get_default (mask : Option β → Bool) (value : Option (Option β))
    (xs : List (Option β)) (i : Nat) (hi : i < xs.length)
    (hm : ∀ k (_ : i ≤ k) (h2 : k < xs.length), mask xs[k] = true) :
    (bfillMask mask value xs)[i]? = some (value.getD none) := by
  rw [bfill_eq_bfillS, bfillS, getElem?_mapIdx_of_lt _ _ _ hi, if_pos (hm i (Nat.le_refl i) hi),
    find?_drop_skip _ xs (i + 1) xs.length hi (Nat.le_refl _) (fun k h1 h2 => by rw [hm k (Nat.le_of_lt h1) h2]; rfl),
    List.drop_length]
  rfl

/-- `ffill`: each null becomes the nearest earlier non-null element or else the default; every
non-null element is untouched (closed form with `find?` over the reversed prefix). -/
theorem ffill_get (value : Option (Option β)) (xs : List (Option β)) (i : Nat) (hi : i < xs.length) :
    (ffill value xs)[i]? =
      some (match xs[i] with
            | some q => some q
            | none => ((xs.take i).reverse.find? fun y => y.isSome).getD (value.getD none)) := by
  rw [ffill, ffill_eq_ffillS, ffillS, getElem?_mapIdx_of_lt _ _ _ hi]
  cases xs[i] <;> simp

/-- `bfill`: each null becomes the nearest later non-null element or else the default. -/
theorem bfill_get (value : Option (Option β)) (xs : List (Option β)) (i : Nat) (hi : i < xs.length) :
    (bfill value xs)[i]? =
      some (match xs[i] with
            | some q => some q
            | none => ((xs.drop (i + 1)).find? fun y => y.isSome).getD (value.getD none)) := by
  rw [bfill, bfill_eq_bfillS, bfillS, getElem?_mapIdx_of_lt _ _ _ hi]
  cases xs[i] <;> simp

/-- `fill_mask` acts on each element alone: masked → the value, unmasked → unchanged. -/
theorem fill_get (mask : α → Bool) (v : α) (xs : List α) (i : Nat) :
    (fillMask mask v xs)[i]? = xs[i]?.map fun x => if mask x then v else x :=
  List.getElem?_map

/-- `fill` touches only nulls: a non-null element is unchanged, a null becomes the value. -/
theorem fill_only_nulls (v : Option β) (xs : List (Option β)) (i : Nat) (hi : i < xs.length) :
    (∀ q, xs[i] = some q → (fill v xs)[i]? = some (some q)) ∧
    (xs[i] = none → (fill v xs)[i]? = some v) := by
  simp +contextual [fill, fillMask, hi]

theorem fill_eq_fillS (mask : α → Bool) (v : α) (xs : List α) : fillMask mask v xs = fillS mask v xs := rfl

/-- `vclip` acts on each element alone, through one fixed function of the bounds, whichever
of the four dispatch branches is taken; nulls are mapped to null. -/
theorem clip_get (lo hi : Option Rat) (xs : List (Option Rat)) (i : Nat) :
    (vclip lo hi xs)[i]? = xs[i]?.map fun v => v.map (clip1 lo hi) := by
  rw [clip_eq_clipS]; exact List.getElem?_map

/-- `vclip` leaves nulls null and never produces a null from a number (any bounds, any order). -/
theorem clip_null (lo hi : Option Rat) (xs : List (Option Rat)) (i : Nat) :
    (vclip lo hi xs)[i]? = some none ↔ xs[i]? = some none := by
  simp [clip_get]

/-- The value of a clipped number for ordered bounds: the bound it violates, else itself. -/
theorem clip_value (lo hi : Option Rat) (hb : Ordered lo hi) (x : Rat) :
    (∀ l, lo = some l → x < l → clip1 lo hi x = l) ∧
    (∀ h, hi = some h → h < x → clip1 lo hi x = h) ∧
    ((∀ l, lo = some l → l ≤ x) → (∀ h, hi = some h → x ≤ h) → clip1 lo hi x = x) := by
  exact ⟨clip1_below lo hi x hb, clip1_above lo hi x hb, clip1_inside lo hi x⟩

/-- Clipping with `lower ≤ upper` (or a null bound) is idempotent. -/
theorem clip_idem (lo hi : Option Rat) (hb : Ordered lo hi) (xs : List (Option Rat)) :
    vclip lo hi (vclip lo hi xs) = vclip lo hi xs := by
  simp only [clip_eq_clipS, clipS, List.map_map]
  exact List.map_congr_left fun v _ => by cases v <;> simp [clip1_idem lo hi _ hb]

/-- With `lower ≤ upper` every non-null result lies inside the (present) bounds. -/
theorem clip_within (lo hi : Option Rat) (hb : Ordered lo hi) (xs : List (Option Rat)) (y : Rat)
    (hy : some y ∈ vclip lo hi xs) :
    (∀ l, lo = some l → l ≤ y) ∧ (∀ h, hi = some h → y ≤ h) := by
  rw [clip_eq_clipS, clipS, List.mem_map] at hy
  obtain ⟨v, _, hv⟩ := hy
  rcases v with _ | x
  · cases hv
  · cases hv
    exact clip1_within lo hi x hb

/-- `abs` / `vabs` act on each element alone by `|·|`; `rabs q` is non-negative and equals `q`
or `-q` according to the sign of `q` (`rabs_nonneg`, `rabs_cases` of Lemmas/C13). -/
theorem abs_get (xs : List (Option Rat)) (i : Nat) :
    (vabs xs)[i]? = xs[i]?.map (fun v => v.map rabs) ∧ (abs xs)[i]? = xs[i]?.map (fun v => v.map rabs) ∧
    ∀ q : Rat, 0 ≤ rabs q ∧ ((0 ≤ q ∧ rabs q = q) ∨ (q < 0 ∧ rabs q = -q)) := by
  exact ⟨List.getElem?_map, List.getElem?_map, fun q => ⟨rabs_nonneg q, rabs_cases q⟩⟩

/-- `abs` and `vabs` leave nulls null (and produce no new null). -/
theorem abs_null (xs : List (Option Rat)) (i : Nat) :
    ((vabs xs)[i]? = some none ↔ xs[i]? = some none) ∧ ((abs xs)[i]? = some none ↔ xs[i]? = some none) := by
  simp [vabs, abs]

theorem abs_eq_absS (xs : List (Option Rat)) : vabs xs = absS xs ∧ abs xs = absS xs := by
  have h : vabs xs = absS xs := by
    unfold vabs absS
    rw [funext rabs_eq_absq]
  -- `abs` and `vabs` are the same list function
  exact ⟨h, h⟩

/-- **lag 0 is the identity** for `shift` / `vshift`, whatever the fill value -/
theorem shift_zero {α : Type} (v : α) (xs : List α) : shift 0 v xs = xs := by
  cases xs <;> simp [shift]

theorem vshift_zero {β : Type} (value : Option (Option β)) (xs : List (Option β)) :
    vshift 0 value xs = xs := (vshift_eq_shift 0 value xs).trans (shift_zero _ xs)

/-- **`abs` / `vabs` are idempotent** -/
theorem abs_idem (xs : List (Option Rat)) : vabs (vabs xs) = vabs xs ∧ abs (abs xs) = abs xs := by
  have h : rabs ∘ rabs = rabs := by
    funext q
    rcases rabs_cases (rabs q) with ⟨_, e⟩ | ⟨hlt, _⟩
    · exact e
    · exact absurd (rabs_nonneg q) (Rat.not_le.mpr hlt)
  constructor <;> simp [vabs, abs, h]

/-- **shifting there and back keeps the interior**: after a lag `n ≥ 0` and the opposite lag, every
position `i < len - n` holds its original element (the last `n` places hold the fill value) -/
theorem shift_back {α : Type} (n : Nat) (v w : α) (xs : List α) (i : Nat) (hi : i + n < xs.length) :
    (shift (-(n : Int)) w (shift (n : Int) v xs))[i]? = some xs[i] := by
  have hi' : i < xs.length := Nat.lt_of_le_of_lt (Nat.le_add_right i n) hi
  -- the way back reads position `i - (-n) = i + n`, where the way out put `x[i + n - n]`
  rw [shift_eq_shiftS (-(n : Int)), shiftS, getElem?_mapIdx_of_lt _ _ _ (by rw [shift_len]; exact hi'),
    Int.sub_neg, ← Int.natCast_add, opnd_natCast, shift_eq_shiftS, shiftS, getElem?_mapIdx_of_lt _ _ _ hi,
    Int.natCast_add, Int.add_sub_cancel, opnd_natCast, List.getElem?_eq_getElem hi']
  rfl

/-- A lag at least as large as the length (in particular `i32::MIN` / `i32::MAX` on any series
shorter than 2^31) yields `len` copies of the fill value. -/
theorem shift_all_fill (n : Int) (v : α) (xs : List α) (h : xs.length ≤ n.natAbs) :
    shift n v xs = List.replicate xs.length v ∧
    ∀ value : Option (Option β), ∀ ys : List (Option β), ys.length ≤ n.natAbs →
      vshift n value ys = List.replicate ys.length (value.getD none) := by
  exact ⟨if_pos h, fun value ys hy => (vshift_eq_shift n value ys).trans (if_pos hy)⟩

/-- Lag 0: `vdiff` is `x[i] - x[i]`, i.e. 0 at non-null elements and null at nulls; `vpct_change`
is 0 at non-null non-zero elements and null at nulls and zeros. -/
theorem lag0 (value : Option (Option Rat)) (xs : List (Option Rat)) :
    vdiff 0 value xs = xs.map (fun x => x.map fun _ => (0 : Rat)) ∧
    vpctChange 0 xs = xs.map (fun x => x.bind fun q => if q = 0 then none else some (0 : Rat)) := by
  constructor
  · rw [vdiff_eq_diffS, diffS]
    apply List.ext_getElem?
    intro i
    rw [List.getElem?_mapIdx, List.getElem?_map, Int.sub_zero, opnd_natCast]
    rcases xs[i]? with _ | _ | q
    · rfl
    · rfl
    · exact congrArg (fun r => some (some r)) Rat.sub_self
  · rw [vpct_eq_pctS, pctS]
    apply List.ext_getElem?
    intro i
    rw [List.getElem?_mapIdx, List.getElem?_map, Int.sub_zero, opnd_natCast]
    rcases xs[i]? with _ | _ | q
    · rfl
    · rfl
    · by_cases hq : q = 0
      · simp only [Option.map_some, Option.bind_some, if_pos hq]
      · simp only [Option.map_some, Option.bind_some, if_neg hq, Rat.div_def, Rat.mul_inv_cancel q hq,
          Rat.sub_self]

/-! ## the pinned tree violates the property (F12, F16, F17): concrete witnesses -/

/-- F12: pinned `MapBasic::shift(-3, 7)` on a 2-element input yields THREE items while its
`TrustIter` announces 2 (a heap overrun once collected by a trusted collector); `shift(3, 7)`
underflows `len - n_abs` (panic). The repaired model returns 2 items in both cases. -/
theorem shift_pinned_wrong :
    shiftPinned (-3) 7 [1, 2] = some ([7, 7, 7], 2) ∧ shiftPinned 3 7 [1, 2] = none ∧
    shift (-3) 7 [1, 2] = [7, 7] ∧ shift 3 7 [1, 2] = [7, 7] := by decide

/-- F16: pinned `vdiff(1, Some(7))` on `[1, 3]` puts `1 - 7 = -6` into the vacated slot instead of
the fill value 7. -/
theorem vdiff_pinned_wrong :
    vdiffPinned 1 (some (some 7)) [some 1, some 3] = [some (-6), some 2] ∧
    vdiff 1 (some (some 7)) [some 1, some 3] = [some 7, some 2] := by
  decide +kernel

/-- F17: pinned `vdiff(0)` / `vpct_change(0)` return 0 at a null element and at a zero base,
where `x[i] - x[i]` and `x[i] / x[i] - 1` are null. -/
theorem lag0_pinned_wrong :
    vdiffPinned 0 none [none, some 3] = [some 0, some 0] ∧
    vdiff 0 none [none, some 3] = [none, some 0] ∧
    vpctChangePinned 0 [none, some 0, some 3] = [some 0, some 0, some 0] ∧
    vpctChange 0 [none, some 0, some 3] = [none, none, some 0] := by
  decide +kernel

/-! ## non-vacuity: the statements above on concrete, non-trivial inputs -/

example : shift 2 0 [1, 2, 3, 4, 5] = [0, 0, 1, 2, 3] ∧ shift (-2) 0 [1, 2, 3, 4, 5] = [3, 4, 5, 0, 0] ∧
    shift (-2147483648) 0 [1, 2, 3] = [0, 0, 0] ∧ shift 2147483647 0 [1, 2, 3] = [0, 0, 0] := by decide

example : vshift 1 none [some 1, none, some 3] = [none, some 1, none] := by decide

example : ffill (some (some 9)) [none, some 1, none, none, some 2, none] =
    [some 9, some 1, some 1, some 1, some 2, some 2] := by decide

example : bfill none [none, some 1, none, none, some 2, none] =
    [some 1, some 1, some 2, some 2, some 2, none] := by decide

/-- the hypotheses of `ffill_get_nearest` are satisfiable: `j = 1`, `i = 3` on the series above -/
example : (ffill none [none, some 1, none, none, some 2, none])[3]? = some (some 1) :=
  ffill_get_nearest Option.isNone none [none, some 1, none, none, some 2, none] 3 1 (by decide) (by decide)
    (by decide) (by intro k h1 h2; have : k = 2 ∨ k = 3 := by omega
                    rcases this with rfl | rfl <;> rfl)

/-- ordered bounds exist, with and without a null bound -/
example : Ordered (some 0) (some 2) ∧ Ordered none (some 2) ∧ Ordered (some 0) none := by
  refine ⟨fun l h hl hh => ?_, fun _ _ hl _ => (nomatch hl), fun _ _ _ hh => (nomatch hh)⟩
  cases hl
  cases hh
  decide +kernel

example : vclip (some 0) (some 2) [some (-1), none, some 1, some 5] = [some 0, none, some 1, some 2] := by
  decide +kernel

example : vdiff (-1) (some (some 7)) [some 1, none, some 4, some 6] = [none, none, some (-2), some 7] := by
  decide +kernel

end Tv.C13
