import Tv.Thm.C05Reg
/-!
# C06, Part 3 — covariance / correlation / regression family

Corollaries of the C04 `_exact` theorems (in the uniform form `C05.ts2_exact` / `C05.ts1_exact`):
every entry point is `i ↦ F (window …)` on the zipped pair of series (two-series functions) or on
the series (time-trend family), so it is prefix-stable
(no look-ahead) and independent of everything before the window. The effective minimum
`effMp mp w k` of this family never looks at the series length, so — unlike the extrema family —
there is no restriction on `min_periods`. Exact in the model; the floating-point residue of
pre-window history in the incremental sums of the implementation is a rounding fact (DESIGN 5.1).
-/
namespace Tv.C06
open Tv Tv.C04 Tv.C04.Spec

theorem zip_take (xs : List α) (ys : List β) (k : Nat) :
    (xs.take k).zip (ys.take k) = (xs.zip ys).take k := by
  simp [List.zip, List.take_zipWith]

theorem zip_getElem?_congr (xs ys xs' ys' : List α) (j : Nat)
    (hx : xs[j]? = xs'[j]?) (hy : ys[j]? = ys'[j]?) : (xs.zip ys)[j]? = (xs'.zip ys')[j]? := by
  simp only [List.zip, List.getElem?_zipWith, hx, hy]

theorem rolling1_prefix (F : List Rat → Out) (xs : List (Option Rat)) (w k : Nat) :
    rolling1 F (xs.take k) w = (rolling1 F xs w).take k := by
  unfold rolling1 vwin
  exact windowed_prefix (fun l => F (valid l)) xs w k

/-- no length hypothesis is needed: `rolling2` ranges over the positions of the first series, and
windows of `(xs.zip ys).take k` ending before `k` are windows of `xs.zip ys` -/
theorem rolling2_prefix (F : List (Rat × Rat) → Out) (xs ys : List (Option Rat)) (w k : Nat) :
    rolling2 F (xs.take k) (ys.take k) w = (rolling2 F xs ys w).take k := by
  unfold rolling2
  rw [zip_take, List.length_take]
  exact windowed_take (fun q => F (complete q)) (xs.zip ys) w k xs.length

theorem rolling1_local (F : List Rat → Out) (xs xs' : List (Option Rat)) (w : Nat)
    (hlen : xs.length = xs'.length) (i : Nat)
    (h : ∀ j, i + 1 - w ≤ j → j ≤ i → xs[j]? = xs'[j]?) :
    (rolling1 F xs w)[i]? = (rolling1 F xs' w)[i]? := by
  unfold rolling1 vwin
  rw [hlen]; exact windowed_congr (fun l => F (valid l)) xs xs' w _ i h

theorem rolling2_local (F : List (Rat × Rat) → Out) (xs ys xs' ys' : List (Option Rat)) (w : Nat)
    (hlen : xs.length = xs'.length) (i : Nat)
    (hx : ∀ j, i + 1 - w ≤ j → j ≤ i → xs[j]? = xs'[j]?)
    (hy : ∀ j, i + 1 - w ≤ j → j ≤ i → ys[j]? = ys'[j]?) :
    (rolling2 F xs ys w)[i]? = (rolling2 F xs' ys' w)[i]? := by
  unfold rolling2
  rw [hlen]
  exact windowed_congr (fun q => F (complete q)) (xs.zip ys) (xs'.zip ys') w _ i
    fun j h1 h2 => zip_getElem?_congr xs ys xs' ys' j (hx j h1 h2) (hy j h1 h2)

/-- **no look-ahead**: each of the 12 single-valued entry points evaluated on the prefixes of
length `k` returns the first `k` outputs of the full evaluation (any `min_periods`, both shapes;
equal-length series for the two-series functions) -/
theorem c04_prefix (sh : Shape) (w : Nat) (mp : Option Nat) (hw : 1 ≤ w) (k : Nat) :
    (∀ (f : Fn2) (xs ys : List (Option Rat)), ys.length = xs.length →
      ts2 f sh (xs.take k) (ys.take k) w mp = (ts2 f sh xs ys w mp).take k) ∧
    (∀ (f : Fn1) (xs : List (Option Rat)),
      ts1 f sh (xs.take k) w mp = (ts1 f sh xs w mp).take k) := by
  constructor
  · intro f xs ys hlen
    rw [C05.ts2_exact f sh _ _ w mp hw (by rw [List.length_take, List.length_take, hlen]),
      C05.ts2_exact f sh xs ys w mp hw hlen]
    exact rolling2_prefix _ xs ys w k
  · intro f xs
    rw [C05.ts1_exact f sh _ w mp hw, C05.ts1_exact f sh xs w mp hw]
    exact rolling1_prefix _ xs w k

/-- `ts_vregx_all` has no look-ahead either -/
theorem c04_all_prefix (sh : Shape) (xs ys : List (Option Rat)) (w : Nat) (mp : Option Nat)
    (hw : 1 ≤ w) (hlen : ys.length = xs.length) (k : Nat) :
    tsRegxAll sh (xs.take k) (ys.take k) w mp = (tsRegxAll sh xs ys w mp).take k := by
  rw [vregx_all_exact sh _ _ w mp hw (by rw [List.length_take, List.length_take, hlen]),
    vregx_all_exact sh xs ys w mp hw hlen, zip_take, List.length_take]
  exact windowed_take (fun q => (regxAlpha (effMp mp w 0) (complete q), regxBeta (effMp mp w 0) (complete q),
    regxSse (effMp mp w 0) (complete q))) (xs.zip ys) w k xs.length

/-- **no dependence on pre-window data**: for each of the 12 single-valued entry points, two pairs
of equally long series (resp. two equally long series) that agree on positions `i+1-w ..= i` have
the same output `i` -/
theorem c04_prewindow (sh : Shape) (w : Nat) (mp : Option Nat) (hw : 1 ≤ w) (i : Nat) :
    (∀ (f : Fn2) (xs ys xs' ys' : List (Option Rat)), ys.length = xs.length →
      ys'.length = xs'.length → xs.length = xs'.length →
      (∀ j, i + 1 - w ≤ j → j ≤ i → xs[j]? = xs'[j]?) →
      (∀ j, i + 1 - w ≤ j → j ≤ i → ys[j]? = ys'[j]?) →
      (ts2 f sh xs ys w mp)[i]? = (ts2 f sh xs' ys' w mp)[i]?) ∧
    (∀ (f : Fn1) (xs xs' : List (Option Rat)), xs.length = xs'.length →
      (∀ j, i + 1 - w ≤ j → j ≤ i → xs[j]? = xs'[j]?) →
      (ts1 f sh xs w mp)[i]? = (ts1 f sh xs' w mp)[i]?) := by
  constructor
  · intro f xs ys xs' ys' hl hl' hlen hx hy
    rw [C05.ts2_exact f sh xs ys w mp hw hl, C05.ts2_exact f sh xs' ys' w mp hw hl']
    exact rolling2_local _ xs ys xs' ys' w hlen i hx hy
  · intro f xs xs' hlen h
    rw [C05.ts1_exact f sh xs w mp hw, C05.ts1_exact f sh xs' w mp hw]
    exact rolling1_local _ xs xs' w hlen i h

/-- non-vacuity: `ts_vregx_beta` on the first three positions of two 5-element series (with a
null) is the first three outputs of the full run, and position 4 (window 2) ignores a change at
position 0 -/
example :
    ts2 .beta .to ([some 1, some 5, none, some 2, some 5].take 3) ([some 2, some 5, some 4, some 3, some 7].take 3) 2 (some 1)
      = (ts2 .beta .to [some 1, some 5, none, some 2, some 5] [some 2, some 5, some 4, some 3, some 7] 2 (some 1)).take 3 ∧
    (ts2 .beta .to [some 1, some 5, none, some 2, some 5] [some 2, some 5, some 4, some 3, some 7] 2 (some 1))[4]?
      = (ts2 .beta .to [some 9, some 5, none, some 2, some 5] [none, some 5, some 4, some 3, some 7] 2 (some 1))[4]? := by
  constructor
  · exact (c04_prefix .to 2 (some 1) (by decide) 3).1 .beta _ _ (by decide)
  · refine (c04_prewindow .to 2 (some 1) (by decide) 4).1 .beta _ _ _ _ (by decide) (by decide) (by decide) ?_ ?_ <;>
    · intro j h1 h2
      have : j = 3 ∨ j = 4 := by omega
      rcases this with rfl | rfl <;> rfl

end Tv.C06
