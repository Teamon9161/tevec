import Tv.Thm.C04
import Tv.Lemmas.Local
/-!
# C05, Part 3 — covariance / correlation / regression family (from the C04 `_exact` theorems)

Effective minimum: `effMp mp w f.minK = max (min (min_periods or w/2) w) k` with `k = 2` for
`ts_vcov` (the F20 repair) and `k = 0` for the other eleven single-valued entry points. The count
is the number of *pairwise-complete* observations of the window
(`Spec.complete (window (xs.zip ys) i w)`) for the two-series functions, and the number of non-null
elements of the window (`vwin xs i w`) for the time-trend family.

The twelve `_exact` theorems of `Thm/C04.lean` are first packaged as two uniform statements
(`ts2_exact`, `ts1_exact`) over `Fn2` / `Fn1`; length, warm-up nulls and non-null-after-warm-up are
read off the from-scratch definitions. The two-series statements carry the hypothesis
`ys.length = xs.length` of their `_exact` theorems.
-/
namespace Tv.C05
open Tv Tv.C04 Tv.C04.Spec

/-- the from-scratch per-window definition of each two-series entry point -/
def spec2 : Fn2 → Nat → List (Rat × Rat) → Out
  | .cov => cov
  | .corr => corr
  | .alpha => regxAlpha
  | .beta => regxBeta
  | .residMean => regxResidMean
  | .residStd => regxResidStd
  | .residSkew => regxResidSkew

/-- the from-scratch per-window definition of each time-trend entry point -/
def spec1 : Fn1 → Nat → List Rat → Out
  | .reg => trendFitted
  | .tsf => trendForecast
  | .slope => trendSlope
  | .intercept => trendIntercept
  | .residMean => trendMsr

/-- the seven two-series `_exact` theorems of C04 as one statement over `Fn2` -/
theorem ts2_exact (f : Fn2) (sh : Shape) (xs ys : List (Option Rat)) (w : Nat) (mp : Option Nat)
    (hw : 1 ≤ w) (hlen : ys.length = xs.length) :
    ts2 f sh xs ys w mp = rolling2 (spec2 f (effMp mp w f.minK)) xs ys w := by
  cases f
  · exact vcov_exact sh xs ys w mp hw hlen
  · exact vcorr_exact sh xs ys w mp hw hlen
  · exact vregx_alpha_exact sh xs ys w mp hw hlen
  · exact vregx_beta_exact sh xs ys w mp hw hlen
  · exact vregx_resid_mean_exact sh xs ys w mp hw hlen
  · exact vregx_resid_std_exact sh xs ys w mp hw hlen
  · exact vregx_resid_skew_exact sh xs ys w mp hw hlen

/-- the five time-trend `_exact` theorems of C04 as one statement over `Fn1` -/
theorem ts1_exact (f : Fn1) (sh : Shape) (xs : List (Option Rat)) (w : Nat) (mp : Option Nat)
    (hw : 1 ≤ w) :
    ts1 f sh xs w mp = rolling1 (spec1 f (effMp mp w 0)) xs w := by
  cases f
  · exact vreg_exact sh xs w mp hw
  · exact vtsf_exact sh xs w mp hw
  · exact vreg_slope_exact sh xs w mp hw
  · exact vreg_intercept_exact sh xs w mp hw
  · exact vreg_resid_mean_exact sh xs w mp hw

/-- a value that is never null by itself, masked below `m`, is null exactly below `m` -/
theorem mask_null_iff {n m : Nat} {o : Out} (ho : o ≠ .null) :
    (if n ≥ m then o else Out.null) = .null ↔ n < m := by
  split
  · next h => exact ⟨fun e => absurd e ho, fun e => absurd h (Nat.not_le.2 e)⟩
  · next h => exact ⟨fun _ => Nat.lt_of_not_le h, fun _ => rfl⟩

/-- every two-series from-scratch value is null exactly below the minimum `m`: above it the value
is `.val`, `.root` or `.degen` (zero denominator / undefined statistic), never `.null` -/
theorem spec2_null_iff (f : Fn2) (m : Nat) (l : List (Rat × Rat)) :
    spec2 f m l = .null ↔ l.length < m := by
  cases f <;> simp only [spec2, cov, corr, regxAlpha, regxBeta, regxResidMean, regxResidStd, regxResidSkew, regx, masked] <;>
    refine mask_null_iff ?_ <;> repeat' split
  all_goals exact Out.noConfusion

/-- every time-trend from-scratch value is null exactly below the minimum `m` -/
theorem spec1_null_iff (f : Fn1) (m : Nat) (v : List Rat) :
    spec1 f m v = .null ↔ v.length < m := by
  have ht : ∀ g, trend g m v = .null ↔ v.length < m := fun g =>
    mask_null_iff (by dsimp only; split <;> exact Out.noConfusion)
  cases f <;> simp only [spec1, trendFitted, trendForecast, trendSlope, trendIntercept, trendMsr] <;> exact ht _

/-- **length**: each of the 12 single-valued entry points of the covariance / correlation /
regression family returns one output per input position (equal-length series for the two-series
functions), and `[]` on `[]` -/
theorem c04_len (sh : Shape) (w : Nat) (mp : Option Nat) (hw : 1 ≤ w) :
    (∀ (f : Fn2) (xs ys : List (Option Rat)), ys.length = xs.length →
      (ts2 f sh xs ys w mp).length = xs.length) ∧
    (∀ f : Fn2, ts2 f sh [] [] w mp = []) ∧
    (∀ (f : Fn1) (xs : List (Option Rat)), (ts1 f sh xs w mp).length = xs.length) ∧
    (∀ f : Fn1, ts1 f sh [] w mp = []) := by
  refine ⟨?_, ?_, ?_, ?_⟩
  · intro f xs ys hlen
    rw [ts2_exact f sh xs ys w mp hw hlen]; simp [rolling2]
  · intro f
    rw [ts2_exact f sh [] [] w mp hw rfl]; simp [rolling2]
  · intro f xs
    rw [ts1_exact f sh xs w mp hw]; simp [rolling1]
  · intro f
    rw [ts1_exact f sh [] w mp hw]; simp [rolling1]

/-- `ts_vregx_all` returns one triple per input position too -/
theorem c04_all_len (sh : Shape) (xs ys : List (Option Rat)) (w : Nat) (mp : Option Nat) (hw : 1 ≤ w)
    (hlen : ys.length = xs.length) : (tsRegxAll sh xs ys w mp).length = xs.length := by
  rw [vregx_all_exact sh xs ys w mp hw hlen]; simp

/-- **mask law (iff form)**: output `i` of a two-series entry point is null iff the window holds
fewer than `effMp mp w f.minK` pairwise-complete observations; output `i` of a trend entry point is
null iff the window holds fewer than `effMp mp w 0` non-null values -/
theorem c04_null_iff (sh : Shape) (w : Nat) (mp : Option Nat) (hw : 1 ≤ w) :
    (∀ (f : Fn2) (xs ys : List (Option Rat)), ys.length = xs.length → ∀ i, i < xs.length →
      ((ts2 f sh xs ys w mp)[i]? = some .null ↔
        (complete (window (xs.zip ys) i w)).length < effMp mp w f.minK)) ∧
    (∀ (f : Fn1) (xs : List (Option Rat)) (i : Nat), i < xs.length →
      ((ts1 f sh xs w mp)[i]? = some .null ↔ (vwin xs i w).length < effMp mp w 0)) := by
  constructor
  · intro f xs ys hlen i hi
    rw [ts2_exact f sh xs ys w mp hw hlen]
    simp only [rolling2, List.getElem?_map, List.getElem?_range hi, Option.map_some, Option.some.injEq]
    exact spec2_null_iff f _ _
  · intro f xs i hi
    rw [ts1_exact f sh xs w mp hw]
    simp only [rolling1, List.getElem?_map, List.getElem?_range hi, Option.map_some, Option.some.injEq]
    exact spec1_null_iff f _ _

/-- **mask law, warm-up**: output `i` is `.null` whenever the number of pairwise-complete
observations of window `i` (resp. of non-null values, for the trend family) is below the effective
minimum `effMp mp w f.minK` (resp. `effMp mp w 0`) -/
theorem c04_null_below (sh : Shape) (w : Nat) (mp : Option Nat) (hw : 1 ≤ w) :
    (∀ (f : Fn2) (xs ys : List (Option Rat)), ys.length = xs.length → ∀ i, i < xs.length →
      (complete (window (xs.zip ys) i w)).length < effMp mp w f.minK →
      (ts2 f sh xs ys w mp)[i]? = some .null) ∧
    (∀ (f : Fn1) (xs : List (Option Rat)) (i : Nat), i < xs.length →
      (vwin xs i w).length < effMp mp w 0 → (ts1 f sh xs w mp)[i]? = some .null) :=
  ⟨fun f xs ys hlen i hi h => ((c04_null_iff sh w mp hw).1 f xs ys hlen i hi).mpr h,
   fun f xs i hi h => ((c04_null_iff sh w mp hw).2 f xs i hi).mpr h⟩

/-- **mask law, after warm-up**: once the count reaches the effective minimum, output `i` is not
`.null` — it is a value, a (signed) root, or `.degen` for a zero denominator / undefined
statistic. Holds for all 12 functions without exception: none of the from-scratch definitions
returns `.null` above the mask. -/
theorem c04_nonnull_at (sh : Shape) (w : Nat) (mp : Option Nat) (hw : 1 ≤ w) :
    (∀ (f : Fn2) (xs ys : List (Option Rat)), ys.length = xs.length → ∀ i, i < xs.length →
      effMp mp w f.minK ≤ (complete (window (xs.zip ys) i w)).length →
      (ts2 f sh xs ys w mp)[i]? ≠ some .null) ∧
    (∀ (f : Fn1) (xs : List (Option Rat)) (i : Nat), i < xs.length →
      effMp mp w 0 ≤ (vwin xs i w).length → (ts1 f sh xs w mp)[i]? ≠ some .null) :=
  ⟨fun f xs ys hlen i hi h hn =>
      Nat.not_lt_of_le h (((c04_null_iff sh w mp hw).1 f xs ys hlen i hi).mp hn),
   fun f xs i hi h hn => Nat.not_lt_of_le h (((c04_null_iff sh w mp hw).2 f xs i hi).mp hn)⟩

/-- the three components of `ts_vregx_all` follow the same mask: all null below `effMp mp w 0`
pairwise-complete observations, none null from there on -/
theorem c04_all_null_iff (sh : Shape) (xs ys : List (Option Rat)) (w : Nat) (mp : Option Nat)
    (hw : 1 ≤ w) (hlen : ys.length = xs.length) (i : Nat) (hi : i < xs.length) :
    ((complete (window (xs.zip ys) i w)).length < effMp mp w 0 →
      (tsRegxAll sh xs ys w mp)[i]? = some (.null, .null, .null)) ∧
    (effMp mp w 0 ≤ (complete (window (xs.zip ys) i w)).length →
      ∃ a b s, (tsRegxAll sh xs ys w mp)[i]? = some (a, b, s) ∧ a ≠ .null ∧ b ≠ .null ∧ s ≠ .null) := by
  rw [vregx_all_exact sh xs ys w mp hw hlen]
  simp only [List.getElem?_map, List.getElem?_range hi, Option.map_some, Option.some.injEq]
  constructor
  · intro h
    have hn : ¬ (complete (window (xs.zip ys) i w)).length ≥ effMp mp w 0 := Nat.not_le_of_lt h
    simp only [regxAlpha, regxBeta, regxSse, regx, masked, if_neg hn]
  · intro h
    refine ⟨_, _, _, rfl, ?_, ?_, ?_⟩
    · exact fun hn => Nat.not_lt_of_le h ((spec2_null_iff .alpha _ _).mp hn)
    · exact fun hn => Nat.not_lt_of_le h ((spec2_null_iff .beta _ _).mp hn)
    · intro hn
      have h' : (complete (window (xs.zip ys) i w)).length ≥ effMp mp w 0 := h
      simp only [regxSse, regx, masked, if_pos h'] at hn
      split at hn <;> cases hn

/-- non-vacuity: position 1 of `ts_vcov` (window 3, `min_periods` omitted, so the effective minimum
is `max 2 (min 1 3) = 2`) sees one complete pair and is null; position 2 sees two and is not -/
example :
    (ts2 .cov .iter [some 1, none, some 3, some 7] [some 2, some 5, some 4, some 1] 3 none)[1]? = some .null ∧
    (ts2 .cov .iter [some 1, none, some 3, some 7] [some 2, some 5, some 4, some 1] 3 none)[2]? ≠ some .null :=
  ⟨(c04_null_below .iter 3 none (by decide)).1 .cov _ _ (by decide) 1 (by decide) (by decide),
   (c04_nonnull_at .iter 3 none (by decide)).1 .cov _ _ (by decide) 2 (by decide) (by decide)⟩

end Tv.C05
