import Tv.Lemmas.Driver
import Tv.Lemmas.Window
/-!
# C02 — rolling drivers call back once per position with exactly the right window

The drivers are those of tea-core/src/vec_core/cores/view.rs (modelled in Model/Basic.lean).
`Shape.to` is the two-phase
`*_to` loop used by Vec / array / slice / ndarray and by every caller-buffer path;
`Shape.iter` is the default iterator body used by VecDeque, Polars and the option view.
-/
namespace Tv.C02
open Tv

/-- the window size a shape effectively slides: `*_to` clamps it to the length -/
def effW : Shape → Nat → Nat → Nat
  | .to, w, len => min w len
  | .iter, w, _ => w

theorem effW_pos (sh : Shape) (w len : Nat) (hw : 1 ≤ w) (hl : 1 ≤ len) : 1 ≤ effW sh w len := by
  cases sh
  · exact Nat.le_min.2 ⟨hw, hl⟩
  · exact hw

theorem window_effW (sh : Shape) (xs : List α) (w i : Nat) (hi : i < xs.length) :
    window xs i (effW sh w xs.length) = window xs i w := by
  cases sh
  · exact window_clamp xs i w hi
  · rfl

/-- the slice drivers start at `start.unwrap_or(0)`: position `i + 1 - W` -/
theorem startAt_getD {W i : Nat} (hW : 1 ≤ W) : (startAt W i).getD 0 = i + 1 - W := by
  by_cases h : W - 1 ≤ i
  · rw [startAt_eq_some h, succ_sub_eq_sub_pred hW]; rfl
  · rw [startAt_eq_none (Nat.lt_of_not_le h),
      Nat.sub_eq_zero_of_le (Nat.le_trans (Nat.succ_le_of_lt (Nat.lt_of_not_le h)) (Nat.sub_le W 1))]; rfl

/-- the slice `start.unwrap_or(0) .. end + 1` handed out at position `i` is the window ending at `i` -/
theorem slice_eq_window (sh : Shape) (xs : List α) (w len i : Nat) (hw : 1 ≤ w) (hlen : xs.length = len)
    (hi : i < len) : xs.extract ((startAt (effW sh w len) i).getD 0) (i + 1) = window xs i w := by
  subst hlen
  rw [← window_effW sh xs w i hi, startAt_getD (effW_pos sh w _ hw (Nat.zero_lt_of_lt hi)),
    List.extract_eq_take_drop, window, List.drop_take]

/-- **once per position, increasing order, with the start index `i-w+1` once `i ≥ w-1`**:
the `(start?, end)` sequence of either shape is `i ↦ (startAt W i, i)` over `0..len`. -/
theorem idx_spec (sh : Shape) (len w : Nat) (hw : 1 ≤ w) :
    sh.idx len w = (List.range len).map (fun i => (startAt (effW sh w len) i, i)) := by
  cases sh
  · exact toIdx_eq len w hw
  · exact iterIdx_eq len w hw

/-- every output slot `0..len` is written exactly once, in increasing order -/
theorem writes_eq_range (sh : Shape) (len w : Nat) (hw : 1 ≤ w) :
    writes sh len w = List.range len := by
  unfold writes
  rw [idx_spec sh len w hw, List.map_map]
  simp [Function.comp_def]

/-- the start reported at position `i` is the specified one (`i-w+1` when `i ≥ w-1`, nothing
when `i < min(w,len)-1`), except possibly at the final position when `w > len`: there the two
shapes differ, which no `Roll` can observe (`run_last_rm_irrelevant`) -/
theorem start_spec (sh : Shape) (len w i : Nat) (hi : i < len) (h : w ≤ len ∨ i + 1 < len) :
    startAt (effW sh w len) i = startAt w i := by
  cases sh
  · exact startAt_clamp len w i h
  · rfl

theorem start_none_in_warmup (sh : Shape) (len w i : Nat) (h : i < min w len - 1) :
    startAt (effW sh w len) i = none := by
  cases sh
  · exact startAt_eq_none h
  · exact startAt_eq_none (Nat.lt_of_lt_of_le h (Nat.sub_le_sub_right (Nat.min_le_left _ _) 1))

/-- `rolling_apply(_to)`: callback arguments are `(element at window start?, element i)` -/
theorem applyCalls_spec (sh : Shape) (xs : List α) (w : Nat) (hw : 1 ≤ w) :
    applyCalls sh xs w = callsFrom xs (effW sh w xs.length) 0 xs.length := by
  unfold applyCalls callsFrom
  rw [idx_spec sh _ w hw, List.filterMap_map, ← List.range_eq_range']
  apply filterMap_congr'
  intro i hi
  have hi' : i < xs.length := by simpa using hi
  simp only [Function.comp_def, List.getElem?_eq_getElem hi', Option.map_some, callAt_eq_bind]

/-- a closure whose state abstracts the window contents, driven by `rolling_apply(_to)` in either
shape, emits `F` of the window at every position: `run_refines_all` under `applyCalls_spec`, the
clamped window of the `*_to` shape being the same window (`window_effW`) -/
theorem run_applyCalls {σ α β : Type} (r : Roll σ α β) (Inv : σ → List α → Prop) (F : List α → β)
    (hinit : Inv r.init [])
    (hadd : ∀ s q v, Inv s q → Inv (r.add s v) (q ++ [v]))
    (hrem : ∀ s x q, Inv s (x :: q) → Inv (r.remove s x) q)
    (hemit : ∀ s q, Inv s q → r.emit s = F q)
    (sh : Shape) (xs : List α) (w : Nat) (hw : 1 ≤ w) :
    r.run r.init (applyCalls sh xs w) = (List.range xs.length).map fun i => F (window xs i w) := by
  rw [applyCalls_spec sh xs w hw]
  rcases Nat.eq_zero_or_pos xs.length with h0 | hpos
  · rw [List.length_eq_zero_iff.mp h0]; rfl
  · rw [run_refines_all r Inv F hinit hadd hrem hemit xs _ (effW_pos sh w _ hw hpos)]
    exact List.map_congr_left fun i hi => by rw [window_effW sh xs w i (List.mem_range.1 hi)]

theorem applyCalls_length (sh : Shape) (xs : List α) (w : Nat) (hw : 1 ≤ w) :
    (applyCalls sh xs w).length = xs.length := by
  rw [applyCalls_spec sh xs w hw, callsFrom, length_filterMap_of_isSome, List.length_range']
  intro i hi
  rw [List.getElem?_eq_getElem (by simpa using hi)]
  rfl

/-- `rolling_apply_idx(_to)`: `(start?, i, element i)` -/
theorem idxCalls_spec (sh : Shape) (xs : List α) (w : Nat) (hw : 1 ≤ w) :
    idxCalls sh xs w =
      (List.range xs.length).filterMap (fun i => xs[i]?.map fun v => (startAt (effW sh w xs.length) i, i, v)) := by
  unfold idxCalls
  rw [idx_spec sh _ w hw, List.filterMap_map]
  rfl

/-- the slice drivers (`rolling_custom`, `rolling_custom_to`, `rolling_custom_iter`) pass
exactly the sub-sequence `max(0,i-w+1) ..= i` -/
theorem customCalls_spec (sh : Shape) (xs : List α) (w : Nat) (hw : 1 ≤ w) :
    customCalls sh xs w = (List.range xs.length).map (fun i => window xs i w) := by
  unfold customCalls
  rw [idx_spec sh _ w hw, List.map_map]
  exact List.map_congr_left fun i hi => slice_eq_window sh xs w _ i hw rfl (List.mem_range.1 hi)

/-- two-series slice driver: the same window of each series -/
theorem custom2Calls_spec (sh : Shape) (xs : List α) (ys : List β) (w : Nat) (hw : 1 ≤ w)
    (hlen : ys.length = xs.length) :
    custom2Calls sh xs ys w = (List.range xs.length).map (fun i => (window xs i w, window ys i w)) := by
  unfold custom2Calls
  rw [idx_spec sh _ w hw, List.map_map]
  exact List.map_congr_left fun i hi => Prod.ext
    (slice_eq_window sh xs w _ i hw rfl (List.mem_range.1 hi))
    (slice_eq_window sh ys w _ i hw hlen (List.mem_range.1 hi))

/-- every unchecked element read of the driver loops, in either shape, is in bounds (also used by C10) -/
theorem reads_in_bounds (sh : Shape) (len w : Nat) (hw : 1 ≤ w) :
    ∀ i ∈ reads sh len w, i < len := by
  intro i hi
  unfold reads at hi
  rw [idx_spec sh len w hw] at hi
  simp only [List.mem_flatMap, List.mem_map, List.mem_range] at hi
  obtain ⟨⟨s, e⟩, ⟨j, hj, hje⟩, hmem⟩ := hi
  injection hje with h1 h2
  subst h2
  simp only [List.mem_append, Option.mem_toList, List.mem_singleton] at hmem
  rcases hmem with h | h
  · exact Nat.lt_of_le_of_lt (startAt_le (h1 ▸ h)) hj
  · omega

/-- `applyCalls_spec` under an arbitrary state-passing callback (`runSt`): it is run left to right
over the specified call list. With `writes_eq_range` (the `k`-th call writes slot `k`) this is the
clause about stateful closures. -/
theorem stateful_output (sh : Shape) (xs : List α) (w : Nat) (hw : 1 ≤ w)
    (f : σ → (Option α × α) → σ × β) (s0 : σ) :
    runSt f s0 (applyCalls sh xs w) = runSt f s0 (callsFrom xs (effW sh w xs.length) 0 xs.length) := by
  rw [applyCalls_spec sh xs w hw]

/-! non-vacuity: a concrete series, both shapes, window shorter and longer than the series -/
example : applyCalls .to [10, 11, 12, 13] 3 = [(none, 10), (none, 11), (some 10, 12), (some 11, 13)] := by decide
example : applyCalls .iter [10, 11, 12, 13] 3 = [(none, 10), (none, 11), (some 10, 12), (some 11, 13)] := by decide
example : applyCalls .to [10, 11] 5 = [(none, 10), (some 10, 11)] := by decide
example : applyCalls .iter [10, 11] 5 = [(none, 10), (none, 11)] := by decide
example : customCalls .to [10, 11, 12] 2 = [[10], [10, 11], [11, 12]] := by decide

end Tv.C02
