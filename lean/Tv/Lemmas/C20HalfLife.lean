import Tv.Model.C20
import Tv.Spec.C20
/-!
`half_life`: the doubling search ends within its fuel (the exponent stays below `len`) on a bracket whose lower
end is 0 or above 0.5 and whose upper end is not above; the bisection keeps such a bracket and ends on
a down-crossing. The loop lemmas go by the functional induction of `doubling` / `bisect`: one case per
branch of the loop body.
-/
namespace Tv.C20
open Tv

/-- what the library guarantees about the oracle: a lag autocorrelation can only be above 0.5
when it is defined, and `vcorr_pearson` needs at least `max(min_periods, 2)` valid pairs while a
shift by `l` leaves at most `len - l` of them. -/
def OracleOk (c : Nat → Cls) (len : Nat) : Prop := ∀ l, c l = .above → l + 2 ≤ len

/-- the exponent `i` never exceeds `n`, which is below `len` whenever the loop goes on, and every
iteration that goes on moves one unit from the fuel to `i` -/
theorem doubling_some (c : Nat → Cls) (len fuel n last i : Nat) :
    i ≤ n → i ≤ len → len < i + fuel → ∃ r, doubling c len fuel n last i = some r := by
  fun_induction doubling c len fuel n last i with
  | case1 => omega
  | case2 f n last i hlt n' ha ih => exact fun _ _ _ => ih Nat.lt_two_pow_self (by omega) (by omega)
  | case3 => exact fun _ _ _ => ⟨_, rfl⟩
  | case4 => exact fun _ _ _ => ⟨_, rfl⟩

theorem doubling_init_some (c : Nat → Cls) (len : Nat) :
    ∃ r, doubling c len (len + 1) 0 0 0 = some r :=
  doubling_some c len (len + 1) 0 0 0 (Nat.le_refl 0) (Nat.zero_le len) (by omega)

/-- loop invariant of the doubling search -/
def DInv (c : Nat → Cls) (n last i : Nat) : Prop :=
  last = n ∧ (n = 0 ∨ c n = .above) ∧ n < 2 ^ i

/-- postcondition of the doubling search for an admissible oracle on a non-empty series: the loop
breaks with a bracket whose lower end is 0 or a lag above 0.5 and whose upper end is not above (it cannot
run past the end of the series: there no lag is above) -/
theorem doubling_post (c : Nat → Cls) (len fuel n last i : Nat) (r : Nat × Nat) (h : OracleOk c len)
    (hlen : 0 < len) : DInv c n last i → doubling c len fuel n last i = some r →
      (r.2 = 0 ∨ c r.2 = .above) ∧ c r.1 ≠ .above ∧ r.2 < r.1 := by
  fun_induction doubling c len fuel n last i with
  | case1 => exact fun _ h => nomatch h
  | case2 f n last i hlt n' ha ih =>
    exact fun _ h => ih ⟨rfl, Or.inr ha, Nat.pow_lt_pow_right (by decide) (Nat.lt_succ_self i)⟩ h
  | case3 f n last i hlt n' ha =>
    rintro ⟨hl, h0, hn⟩ e
    cases e
    exact ⟨hl ▸ h0, ha, hl ▸ hn⟩
  | case4 f n last i hlt =>
    rintro ⟨_, h0, _⟩ _
    rcases h0 with hz | hc
    · omega
    · have := h n hc; omega

theorem mid_between {n last : Nat} (h : n - last > 1) :
    last < (n + last) / 2 ∧ (n + last) / 2 < n := by omega

theorem bisect_ne_timeout (c : Nat → Cls) (fuel n last : Nat) :
    1 ≤ fuel → n < last + fuel → bisect c fuel n last ≠ .timeout := by
  fun_induction bisect c fuel n last with
  | case1 => omega
  | case2 => exact fun _ _ => nofun
  | case3 f n last h1 h2 life ha ih =>
    intro _ hlt
    obtain ⟨hl1, hl2⟩ := mid_between h2
    exact ih (by omega) (by omega)
  | case4 f n last h1 h2 life ha ih =>
    intro _ hlt
    obtain ⟨hl1, hl2⟩ := mid_between h2
    exact ih (by omega) (by omega)
  | case5 => exact fun _ _ => nofun

/-- bracket invariant of the bisection: with `last < n`, `last` zero or above and `n` not above,
the loop ends (no panic, enough fuel) on a down-crossing `r` inside the bracket -/
theorem bisect_spec (c : Nat → Cls) (fuel n last : Nat) :
    last < n → n < last + fuel + 1 → (last = 0 ∨ c last = .above) → c n ≠ .above →
      ∃ r, bisect c fuel n last = .ok r ∧ last < r ∧ r ≤ n ∧ c r ≠ .above ∧
        (r = 1 ∨ c (r - 1) = .above) := by
  fun_induction bisect c fuel n last with
  | case1 => omega
  | case2 f n last h1 => omega
  | case3 f n last h1 h2 life ha ih =>
    intro hlt hf hlast hn
    obtain ⟨hl1, hl2⟩ := mid_between h2
    obtain ⟨r, hr, h3, h4, h5, h6⟩ := ih hl2 (by omega) (Or.inr ha) hn
    exact ⟨r, hr, by omega, h4, h5, h6⟩
  | case4 f n last h1 h2 life ha ih =>
    intro hlt hf hlast hn
    obtain ⟨hl1, hl2⟩ := mid_between h2
    obtain ⟨r, hr, h3, h4, h5, h6⟩ := ih hl1 (by omega) hlast ha
    exact ⟨r, hr, h3, by omega, h5, h6⟩
  | case5 f n last h1 h2 =>
    intro hlt hf hlast hn
    refine ⟨n, rfl, hlt, Nat.le_refl _, hn, ?_⟩
    have : n = last + 1 := by omega
    rcases hlast with h0 | ha
    · left; omega
    · right; rw [this]; simpa using ha

theorem halfLife_small (c : Nat → Cls) (len : Nat) (h : OracleOk c len) (hl : len < 2) :
    halfLife c len = .ok 0 := by
  rcases len with _ | _ | n
  · simp [halfLife]
  · have h1 : c 1 ≠ .above := fun e => by have := h 1 e; omega
    simp [halfLife, doubling, bisect, h1]
  · omega

/-- for an admissible oracle and at least two observations: no panic, enough fuel, and the
returned lag is a down-crossing in `1..=len-1` -/
theorem halfLife_ok (c : Nat → Cls) (len : Nat) (h : OracleOk c len) (h2 : 2 ≤ len) :
    ∃ r, halfLife c len = .ok r ∧ 1 ≤ r ∧ r ≤ len - 1 ∧ c r ≠ .above ∧
      (r = 1 ∨ c (r - 1) = .above) := by
  obtain ⟨r0, hr0⟩ := doubling_init_some c len
  obtain ⟨hlow, hn, hlt⟩ := doubling_post c len (len + 1) 0 0 0 r0 h (by omega)
    ⟨rfl, Or.inl rfl, Nat.two_pow_pos 0⟩ hr0
  have hlen1 : c (len - 1) ≠ .above := fun e => by have := h _ e; omega
  have hlast : r0.2 < len - 1 := by
    rcases hlow with h0 | ha
    · omega
    · have := h _ ha; omega
  have hmin_lt : r0.2 < min r0.1 (len - 1) := by
    rw [Nat.lt_min]; exact ⟨hlt, hlast⟩
  have hmin_c : c (min r0.1 (len - 1)) ≠ .above := by
    rcases Nat.le_total r0.1 (len - 1) with hle | hle
    · rw [Nat.min_eq_left hle]; exact hn
    · rw [Nat.min_eq_right hle]; exact hlen1
  have hmin_le : min r0.1 (len - 1) ≤ len - 1 := Nat.min_le_right _ _
  obtain ⟨r, hr, h3, h4, h5, h6⟩ :=
    bisect_spec c len (min r0.1 (len - 1)) r0.2 hmin_lt (by omega) hlow hmin_c
  refine ⟨r, ?_, by omega, by omega, h5, h6⟩
  unfold halfLife
  have hne : len ≠ 0 := by omega
  simp only [hne, if_false, hr0]
  exact hr

theorem firstNotAbove_spec (c : Nat → Cls) : ∀ bound,
    match Spec.firstNotAbove c bound with
    | some f => 1 ≤ f ∧ f ≤ bound ∧ c f ≠ .above ∧ ∀ l, 1 ≤ l → l < f → c l = .above
    | none => ∀ l, 1 ≤ l → l ≤ bound → c l = .above := by
  intro bound
  induction bound with
  | zero => simp [Spec.firstNotAbove]; intro l h1 h2; omega
  | succ b ih =>
    unfold Spec.firstNotAbove at ih ⊢
    rw [List.range_succ, List.map_append, List.find?_append]
    cases hf : List.find? (fun l => decide (c l ≠ .above)) (List.map (· + 1) (List.range b)) with
    | some f =>
      rw [hf] at ih
      simp only [Option.some_or]
      obtain ⟨a, b', c', d⟩ := ih
      exact ⟨a, by omega, c', d⟩
    | none =>
      rw [hf] at ih
      simp only [Option.none_or, List.map_cons, List.map_nil, List.find?_cons, List.find?_nil]
      by_cases hc : c (b + 1) = .above
      · simp only [hc, ne_eq, not_true_eq_false, decide_false]
        intro l h1 h2
        rcases Nat.lt_or_ge l (b + 1) with h | h
        · exact ih l h1 (by omega)
        · have : l = b + 1 := by omega
          rw [this]; exact hc
      · simp only [hc, ne_eq, not_false_eq_true, decide_true]
        exact ⟨by omega, Nat.le_refl _, trivial, fun l h1 h2 => ih l h1 (by omega)⟩

end Tv.C20
