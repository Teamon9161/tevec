import Tv.Lemmas.C11Moments
/-!
  C11 helper lemmas: closed forms of the two-series aggregations (`vcov`,
  `vcorr_pearson`) against the centred cross sum of the pairwise-complete pairs.
-/
namespace Tv.C11
open Tv Tv.Spec

theorem sum_map_mul_self {α : Type _} (f : α → Rat) (l : List α) :
    Spec.sum (l.map fun p => f p * f p) = psum 2 (l.map f) := by
  unfold psum; rw [List.map_map]; congr 2; funext x; exact (sq _).symm

theorem cross_expand (c d : Rat) (l : List (Rat × Rat)) :
    Spec.sum (l.map fun p => (p.1 - c) * (p.2 - d))
      = Spec.sum (l.map fun p => p.1 * p.2) - d * Spec.sum (l.map (·.1))
        - c * Spec.sum (l.map (·.2)) + (l.length : Rat) * c * d := by
  induction l with
  | nil => simp only [List.map_nil, sum_nil, List.length_nil, Nat.cast_zero]; ring
  | cons p l ih =>
    simp only [List.map_cons, sum_cons, ih, List.length_cons, Nat.cast_succ]; ring

theorem ccross_eq (l : List (Rat × Rat)) (hn : l.length ≠ 0) :
    Spec.ccross l = Spec.sum (l.map fun p => p.1 * p.2)
      - Spec.sum (l.map (·.1)) * Spec.sum (l.map (·.2)) / (l.length : Rat) := by
  have h : (l.length : Rat) ≠ 0 := Nat.cast_ne_zero.mpr hn
  unfold Spec.ccross
  rw [cross_expand, Spec.mean, Spec.mean, List.length_map, List.length_map]
  generalize Spec.sum (l.map (·.1)) = A, Spec.sum (l.map (·.2)) = B, (l.length : Rat) = n at h ⊢
  rw [mul_div_cancel₀ _ h]
  ring

/-- the one-pass variance of one coordinate of the complete pairs -/
theorem pairVar_eq_cmom2 (f : Rat × Rat → Rat) (l : List (Rat × Rat)) (hn : l.length ≠ 0) :
    Spec.sum (l.map fun p => f p * f p) / (l.length : Rat)
        - Spec.sum (l.map f) / (l.length : Rat) * (Spec.sum (l.map f) / (l.length : Rat))
      = cmom 2 (l.map f) := by
  rw [cmom2_raw _ (by rwa [List.length_map]), sum_map_mul_self, ← psum_one]
  unfold rawm; rw [List.length_map]

theorem ccross_perm {p₁ p₂ : List (Rat × Rat)} (h : p₁.Perm p₂) :
    Spec.ccross p₁ = Spec.ccross p₂ := by
  unfold Spec.ccross
  rw [mean_perm (h.map _), mean_perm (h.map (·.2))]
  exact sum_perm (h.map _)

theorem pairsValid_perm {xs ys xs' ys' : List (Option Rat)}
    (h : (xs.zip ys).Perm (xs'.zip ys')) :
    (Spec.pairsValid xs ys).Perm (Spec.pairsValid xs' ys') := h.filterMap _

theorem sgn_div_pos (c n : Rat) (hn : 0 < n) : Spec.sgn (c / n) = Spec.sgn c := by
  unfold Spec.sgn
  simp only [div_lt_iff₀ hn, zero_mul, div_eq_zero_iff, hn.ne', or_false]

/-- the squared correlation: `c²/(varA·varB)` with `c = S/n`, `Σ(a-ā)² = varA·n` -/
theorem corr_sq (S A B n : Rat) : S / n * (S / n) / (A * B) = S * S / (A * n * (B * n)) := by
  rw [div_mul_div_comm, div_div, mul_mul_mul_comm, mul_comm n A, mul_comm n B]

theorem maxWithNat_eq (a b : Nat) : maxWithNat a b = max a b := by
  unfold maxWithNat
  split
  · exact (Nat.max_eq_right (Nat.le_of_lt ‹_›)).symm
  · exact (Nat.max_eq_left (Nat.le_of_not_lt ‹_›)).symm

end Tv.C11
