import Tv.Model.C19Gen
import Tv.Spec.C19Gen
import Mathlib.Tactic.Ring
import Mathlib.Algebra.Order.Field.Rat
import Mathlib.Algebra.Order.Field.Basic
/-! The items of a `Linspace` in closed form; `rangeLen` equals `countBefore` in both arithmetics
(exact rationals, truncating integers); the collector loops as equations on lists. -/
namespace Tv.C19
open Tv.C19.Spec

section lin
variable {α : Type} [Add α] [Mul α] [NatCast α]

@[simp] theorem at_set_index (s : Linspace α) (j i : Nat) :
    ({ s with index := j } : Linspace α).at i = s.at i := rfl

@[simp] theorem at_set_len (s : Linspace α) (j i : Nat) :
    ({ s with len := j } : Linspace α).at i = s.at i := rfl

theorem next_of_lt (s : Linspace α) (h : s.index < s.len) :
    s.next = (some (s.at s.index), { s with index := s.index + 1 }) := by
  unfold Linspace.next
  rw [if_neg (by omega)]

theorem next_of_ge (s : Linspace α) (h : s.len ≤ s.index) : s.next = (none, s) := by
  unfold Linspace.next
  rw [if_pos h]

theorem nextBack_of_lt (s : Linspace α) (h : s.index < s.len) :
    s.nextBack = (some (s.at (s.len - 1)), { s with len := s.len - 1 }) := by
  unfold Linspace.nextBack
  rw [if_neg (by omega)]

theorem nextBack_of_ge (s : Linspace α) (h : s.len ≤ s.index) : s.nextBack = (none, s) := by
  unfold Linspace.nextBack
  rw [if_pos h]

theorem at_range_cons (s : Linspace α) (h : s.index < s.len) :
    ((List.range (s.len - s.index)).map fun k => s.at (s.index + k)) =
      s.at s.index :: (List.range (s.len - (s.index + 1))).map fun k => s.at (s.index + 1 + k) := by
  rw [show s.len - s.index = (s.len - (s.index + 1)) + 1 by omega, List.range_succ_eq_map, List.map_cons,
    List.map_map]
  refine congrArg _ (List.map_congr_left fun k _ => ?_)
  show s.at (s.index + (k + 1)) = _
  rw [Nat.add_comm k 1, Nat.add_assoc]

theorem drain_eq (s : Linspace α) (fuel : Nat) (h : s.len - s.index ≤ fuel) :
    s.drain fuel = (List.range (s.len - s.index)).map fun k => s.at (s.index + k) := by
  induction fuel generalizing s with
  | zero => rw [Nat.le_zero.1 h]; rfl
  | succ f ih =>
    unfold Linspace.drain
    by_cases hlt : s.index < s.len
    · rw [next_of_lt s hlt, at_range_cons s hlt]
      exact congrArg _ (ih _ (by simp only; omega))
    · rw [next_of_ge s (by omega), Nat.sub_eq_zero_of_le (by omega)]; rfl

theorem items_eq (s : Linspace α) :
    s.items = (List.range (s.len - s.index)).map fun k => s.at (s.index + k) :=
  drain_eq s _ (Nat.le_refl _)

theorem items_length (s : Linspace α) : s.items.length = s.len - s.index := by
  rw [items_eq, List.length_map, List.length_range]

theorem items_of_ge (s : Linspace α) (h : s.len ≤ s.index) : s.items = [] := by
  rw [items_eq, Nat.sub_eq_zero_of_le h]; rfl

theorem items_cons (s : Linspace α) (h : s.index < s.len) :
    s.items = s.at s.index :: ({ s with index := s.index + 1 } : Linspace α).items := by
  rw [items_eq, items_eq]; exact at_range_cons s h

theorem items_snoc (s : Linspace α) (h : s.index < s.len) :
    s.items = ({ s with len := s.len - 1 } : Linspace α).items ++ [s.at (s.len - 1)] := by
  rw [items_eq, items_eq]
  have e : s.len - s.index = (s.len - 1 - s.index) + 1 := by omega
  rw [e, List.range_succ, List.map_append]
  simp only [at_set_len, List.map_cons, List.map_nil]
  congr 3; omega

theorem items_eq_progression (a step : α) (n : Nat) :
    (⟨a, step, 0, n⟩ : Linspace α).items = progression a step n := by
  rw [items_eq]
  simp [progression, Linspace.at]

end lin

theorem before_add_mul_iff (a b step : Rat) (hs : step ≠ 0) (t : Rat) :
    Before step (a + t * step) b ↔ t < (b - a) / step := by
  rcases lt_or_gt_of_ne hs with hn | hp
  · rw [lt_div_iff_of_neg hn, sub_lt_iff_lt_add', Before, or_iff_right fun h => lt_asymm h.1 hn, and_iff_right hn]
  · rw [lt_div_iff₀ hp, lt_sub_iff_add_lt', Before, or_iff_left fun h => lt_asymm h.1 hp, and_iff_right hp]

/-- the test "`x` is not strictly before `b`" as the code writes it -/
theorem not_notBefore_of_before {α : Type} [Preorder α] [OfNat α 0] {step x b : α} (h : Before step x b) :
    ¬ ((0 < step ∧ ¬ x < b) ∨ (step < 0 ∧ ¬ b < x)) := by
  rintro (⟨hp, h'⟩ | ⟨hn, h'⟩)
  · exact h.elim (fun k => h' k.2) fun k => lt_asymm hp k.1
  · exact h.elim (fun k => lt_asymm k.1 hn) fun k => h' k.2

/-- `countBefore` is the right cut: the `k`-th term lies strictly before `b` in the direction of
the step iff `k < countBefore` -/
theorem countBefore_spec (a b step : Rat) (hs : step ≠ 0) (k : Nat) :
    k < countBefore a b step ↔ Before step (a + step * (k : Rat)) b := by
  rw [mul_comm, before_add_mul_iff a b step hs, countBefore, Int.lt_toNat, Rat.lt_ceil_iff]
  norm_cast

theorem countBefore_pos_iff (a b step : Rat) (hs : step ≠ 0) : 0 < countBefore a b step ↔ Before step a b := by
  simpa using countBefore_spec a b step hs 0

theorem ratAsUsize_intCast (n : Int) (h : n.toNat < usizeMod) : ratAsUsize (n : Rat) = n.toNat := by
  unfold ratAsUsize
  rw [Rat.floor_intCast]
  omega

section
variable {α : Type} [Add α] [Sub α] [Mul α] [OfNat α 0] [OfNat α 1] [LT α] [DecidableLT α]

/-- `rangeLen` when `b` lies beyond `a`: once the count `s` after the first correction is known
and its last element lies before `b`, the second correction is not taken -/
theorem rangeLen_of_steps (ops : NumOps α) (a b step s : α)
    (hdir : Before step a b)
    (hs1 : (if (0 < step ∧ a + ops.ceil (ops.div (b - a) step) * step < b) ∨
        (step < 0 ∧ b < a + ops.ceil (ops.div (b - a) step) * step)
      then ops.ceil (ops.div (b - a) step) + 1 else ops.ceil (ops.div (b - a) step)) = s)
    (h2 : ¬ ((0 < step ∧ ¬ a + (s - 1) * step < b) ∨ (step < 0 ∧ ¬ b < a + (s - 1) * step))) :
    rangeLen ops a b step = ops.toUsize s := by
  unfold rangeLen
  rw [if_pos (show _ ∨ _ from hdir)]
  simp only [hs1, if_neg h2]

theorem rangeLen_of_not_before (ops : NumOps α) (a b step : α) (h : ¬ Before step a b) :
    rangeLen ops a b step = 0 := by
  unfold rangeLen
  exact if_neg h

end

theorem rangeLen_rat (a b step : Rat) (hs : step ≠ 0) (hc : countBefore a b step < usizeMod) :
    rangeLen ratOps a b step = countBefore a b step := by
  by_cases hdir : Before step a b
  · -- the exact ceiling needs neither correction: `⌈q⌉ - 1 < q ≤ ⌈q⌉`
    have h1 : ¬ Before step (a + (((b - a) / step).ceil : Rat) * step) b :=
      (before_add_mul_iff a b step hs _).not.2 (not_lt.2 Rat.le_ceil)
    have h2 : Before step (a + ((((b - a) / step).ceil : Rat) - 1) * step) b :=
      (before_add_mul_iff a b step hs _).2 (by
        have := Rat.lt_ceil_iff.1 (sub_one_lt ((b - a) / step).ceil)
        rwa [Int.cast_sub, Int.cast_one] at this)
    rw [rangeLen_of_steps ratOps a b step _ hdir (if_neg h1) (not_notBefore_of_before h2)]
    exact ratAsUsize_intCast _ hc
  · rw [rangeLen_of_not_before ratOps a b step hdir,
      Nat.eq_zero_of_not_pos ((countBefore_pos_iff a b step hs).not.2 hdir)]

theorem range_rat (a b step : Rat) (hs : step ≠ 0) (hc : countBefore a b step < usizeMod) :
    range ratOps a b step = .ok ⟨a, step, 0, countBefore a b step⟩ := by
  rw [range, if_neg hs, rangeLen_rat a b step hs hc]

theorem ceil_eq_of {x : Rat} {n : Int} (h1 : (n : Rat) - 1 < x) (h2 : x ≤ (n : Rat)) : x.ceil = n := by
  apply le_antisymm (Rat.ceil_le_iff.mpr h2)
  have : n - 1 < x.ceil := Rat.lt_ceil_iff.mpr (by push_cast; exact h1)
  omega

theorem tdiv_mul_bounds {x m : Int} (hx : 0 ≤ x) (hm : 0 < m) : x.tdiv m * m ≤ x ∧ x < x.tdiv m * m + m :=
  Int.mul_comm m _ ▸ ⟨Int.mul_tdiv_self_le hx, Int.lt_mul_tdiv_self_add hm⟩

/-- the repaired integer count: truncated quotient, plus one for a trailing partial step -/
def intSteps (span step : Int) : Int :=
  if (0 < step ∧ span.tdiv step * step < span) ∨ (step < 0 ∧ span < span.tdiv step * step)
  then span.tdiv step + 1 else span.tdiv step

theorem intSteps_spec_of_pos (span step : Int) (hp : 0 < step) (hs : 0 < span) : 0 < intSteps span step ∧
    ((span : Rat) / (step : Rat)).ceil = intSteps span step ∧ (intSteps span step - 1) * step < span := by
  have ⟨h1, h2⟩ : (intSteps span step - 1) * step < span ∧ span ≤ intSteps span step * step := by
    obtain ⟨h1, h2⟩ := tdiv_mul_bounds hs.le hp
    unfold intSteps
    split
    · rename_i h
      rcases h with ⟨_, h⟩ | ⟨h, _⟩
      · rw [Int.add_sub_cancel, Int.add_mul, Int.one_mul]; omega
      · omega
    · rename_i h
      have h' : ¬ span.tdiv step * step < span := fun hh => h (Or.inl ⟨hp, hh⟩)
      rw [Int.sub_mul, Int.one_mul]; omega
  have hp' : (0 : Rat) < step := Int.cast_pos.2 hp
  refine ⟨(mul_pos_iff_of_pos_right hp).1 (hs.trans_le h2), ceil_eq_of ?_ ?_, h1⟩
  · rw [lt_div_iff₀ hp', ← Int.cast_one, ← Int.cast_sub, ← Int.cast_mul]; exact Int.cast_lt.2 h1
  · rw [div_le_iff₀ hp', ← Int.cast_mul]; exact Int.cast_le.2 h2

theorem intSteps_neg_neg (span step : Int) : intSteps (-span) (-step) = intSteps span step := by
  unfold intSteps
  rw [Int.neg_tdiv_neg, Int.mul_neg]
  exact if_congr (or_comm.trans (or_congr (and_congr Int.neg_neg_iff_pos Int.neg_lt_neg_iff)
    (and_congr Int.neg_pos Int.neg_lt_neg_iff))) rfl rfl

theorem intSteps_spec (a b step : Int) (h : Before step a b) :
    0 < intSteps (b - a) step ∧ (((b - a : Int) : Rat) / (step : Rat)).ceil = intSteps (b - a) step ∧
      Before step (a + (intSteps (b - a) step - 1) * step) b := by
  rcases h with ⟨hp, hab⟩ | ⟨hn, hba⟩
  · obtain ⟨h1, h2, h3⟩ := intSteps_spec_of_pos (b - a) step hp (by omega)
    exact ⟨h1, h2, .inl ⟨hp, by omega⟩⟩
  · obtain ⟨h1, h2, h3⟩ := intSteps_spec_of_pos (-(b - a)) (-step) (by omega) (by omega)
    rw [intSteps_neg_neg] at h1 h2 h3
    rw [Int.cast_neg, Int.cast_neg, neg_div_neg_eq] at h2
    exact ⟨h1, h2, .inr ⟨hn, by rw [Int.mul_neg] at h3; omega⟩⟩

theorem intAsUsize_of_nonneg (n : Int) (h0 : 0 ≤ n) (h : n.toNat < usizeMod) :
    intAsUsize n = n.toNat := by
  rw [intAsUsize, Int.emod_eq_of_lt h0 (by omega)]

theorem before_cast (step x b : Int) : Before (step : Rat) (x : Rat) (b : Rat) ↔ Before step x b := by
  unfold Before; norm_cast

/-- the model's first correction of the truncated quotient, stated on the span -/
theorem intSteps_first (a b step : Int) :
    (if (0 < step ∧ a + (b - a).tdiv step * step < b) ∨ (step < 0 ∧ b < a + (b - a).tdiv step * step)
      then (b - a).tdiv step + 1 else (b - a).tdiv step) = intSteps (b - a) step :=
  if_congr (or_congr (and_congr Iff.rfl lt_tsub_iff_left.symm) (and_congr Iff.rfl sub_lt_iff_lt_add'.symm))
    rfl rfl

theorem rangeLen_int (a b step : Int) (hs : step ≠ 0)
    (hc : countBefore (a : Rat) (b : Rat) (step : Rat) < usizeMod) :
    rangeLen intOps a b step = countBefore (a : Rat) (b : Rat) (step : Rat) := by
  by_cases hdir : Before step a b
  · obtain ⟨hpos, hceil, hlast⟩ := intSteps_spec a b step hdir
    rw [rangeLen_of_steps intOps a b step _ hdir (intSteps_first a b step) (not_notBefore_of_before hlast)]
    have hcnt : countBefore (a : Rat) (b : Rat) (step : Rat) = (intSteps (b - a) step).toNat := by
      rw [countBefore, ← Int.cast_sub, hceil]
    rw [hcnt] at hc ⊢
    exact intAsUsize_of_nonneg _ hpos.le hc
  · rw [rangeLen_of_not_before intOps a b step hdir, Nat.eq_zero_of_not_pos
      ((countBefore_pos_iff (a : Rat) b step (Int.cast_ne_zero.2 hs)).not.2 ((before_cast step a b).not.2 hdir))]

theorem range_int (a b step : Int) (hs : step ≠ 0)
    (hc : countBefore (a : Rat) (b : Rat) (step : Rat) < usizeMod) :
    range intOps a b step = .ok ⟨a, step, 0, countBefore (a : Rat) (b : Rat) (step : Rat)⟩ := by
  rw [range, if_neg hs, rangeLen_int a b step hs hc]

theorem linspace_step_of_le {α : Type} [Sub α] [NatCast α] [OfNat α 0] (ops : NumOps α) (a b : α) {n : Nat}
    (h : n ≤ 1) : (linspace ops a b n).step = 0 := if_neg (by omega)

theorem linspace_step_of_lt {α : Type} [Sub α] [NatCast α] [OfNat α 0] (ops : NumOps α) (a b : α) {n : Nat}
    (h : 1 < n) : (linspace ops a b n).step = ops.div (b - a) ((n - 1 : Nat) : α) := if_pos h

theorem floor_eq_of {x : Rat} {n : Int} (h1 : (n : Rat) ≤ x) (h2 : x < (n : Rat) + 1) : x.floor = n := by
  apply le_antisymm _ (Rat.le_floor_iff.mpr h1)
  have : x.floor < n + 1 := Rat.floor_lt_iff.mpr (by push_cast; exact h2)
  omega

theorem tdiv_eq_floor {x m : Int} (hx : 0 ≤ x) (hm : 0 < m) : x.tdiv m = ((x : Rat) / (m : Rat)).floor := by
  have hm' : (0 : Rat) < (m : Rat) := Int.cast_pos.2 hm
  obtain ⟨h1, h2⟩ := tdiv_mul_bounds hx hm
  refine (floor_eq_of ?_ ?_).symm
  · rw [le_div_iff₀ hm']; exact_mod_cast h1
  · rw [div_lt_iff₀ hm', add_mul, one_mul]; exact_mod_cast h2

theorem tdiv_eq_truncRat (x m : Int) (hm : 0 < m) : Int.tdiv x m = truncRat ((x : Rat) / (m : Rat)) := by
  have hm' : (0 : Rat) < (m : Rat) := Int.cast_pos.2 hm
  unfold truncRat
  by_cases hx : 0 ≤ x
  · rw [if_pos (div_nonneg (Int.cast_nonneg hx) hm'.le), tdiv_eq_floor hx hm]
  · rw [if_neg (not_le.2 (div_neg_of_neg_of_pos (Int.cast_lt_zero.2 (not_le.1 hx)) hm')), Rat.ceil_eq_neg_floor_neg,
      ← neg_div, ← Int.cast_neg, ← tdiv_eq_floor (x := -x) (by omega) hm, Int.neg_tdiv, Int.neg_neg]

theorem rawWrite_ok (cap : Nat) (l written : List α) (h : written.length + l.length ≤ cap) :
    rawWrite cap l written = .ok (written.reverse ++ l) := by
  induction l generalizing written with
  | nil => simp [rawWrite]
  | cons v rest ih =>
    simp only [List.length_cons] at h
    unfold rawWrite
    rw [if_pos (by omega), ih _ (by simp only [List.length_cons]; omega)]
    simp

theorem rawWrite_ub (cap : Nat) (l written : List α) (h : cap < written.length + l.length)
    (hw : written.length ≤ cap) : rawWrite cap l written = .ub := by
  induction l generalizing written with
  | nil => simp at h; omega
  | cons v rest ih =>
    simp only [List.length_cons] at h
    unfold rawWrite
    by_cases hlt : written.length < cap
    · rw [if_pos hlt]
      exact ih _ (by simp only [List.length_cons]; omega) (by simp only [List.length_cons]; omega)
    · rw [if_neg hlt]

theorem collectTrustedToVec_exact (es : Nat) (l : List α) (h : capacityOverflow l.length es = false) :
    collectTrustedToVec es (Iter.exact l) = .ok l := by
  unfold collectTrustedToVec Iter.exact
  simp only [h]
  rw [rawWrite_ok _ _ _ (by simp)]
  simp

theorem collectTrustedToVec_wrong_hint (es : Nat) (l : List α) (n : Nat) (hn : n ≠ l.length)
    (h : capacityOverflow n es = false) : collectTrustedToVec es ⟨l, some n⟩ = .ub := by
  unfold collectTrustedToVec
  simp only [h]
  by_cases hlt : l.length < n
  · rw [rawWrite_ok _ _ _ (by simp only [List.length_nil]; omega)]
    have : ¬ (([] : List α).reverse ++ l).length = n := by simp; omega
    simp only [this]
    simp
  · rw [rawWrite_ub _ _ _ (by simp only [List.length_nil]; omega) (by simp)]
    simp

theorem firstErr_map_ok_append (vs : List α) (rest : List (Except ε α)) :
    firstErr (vs.map .ok ++ rest) = firstErr rest := by
  induction vs with
  | nil => rfl
  | cons v vs ih => exact ih

theorem okValues_map_ok (vs : List α) : okValues (vs.map (.ok : α → Except ε α)) = vs := by
  induction vs with
  | nil => rfl
  | cons v vs ih => exact congrArg (v :: ·) ih

theorem firstErr_split (l : List (Except ε α)) :
    (firstErr l = none → l = (okValues l).map .ok) ∧
    ∀ e, firstErr l = some e → ∃ (vs : List α) (post : List (Except ε α)), l = vs.map .ok ++ .error e :: post := by
  induction l with
  | nil => exact ⟨fun _ => rfl, nofun⟩
  | cons x rest ih =>
    cases x with
    | error e => exact ⟨nofun, fun e' h => ⟨[], rest, Option.some.inj h ▸ rfl⟩⟩
    | ok v =>
      refine ⟨fun h => congrArg (.ok v :: ·) (ih.1 h), fun e h => ?_⟩
      obtain ⟨vs, post, hl⟩ := ih.2 e h
      exact ⟨v :: vs, post, congrArg (.ok v :: ·) hl⟩

theorem consumed_cons_ok (v : α) (rest : List (Except ε α)) :
    consumed (.ok v :: rest) = consumed rest + 1 := rfl

theorem consumed_cons_err (e : ε) (rest : List (Except ε α)) :
    consumed (.error e :: rest : List (Except ε α)) = 1 := rfl

theorem tryLoop_eq (l : List (Except ε α)) (acc : List α) (k : Nat) :
    tryLoop l acc k =
      ⟨match firstErr l with
        | some e => .error e
        | none => .ok (acc.reverse ++ okValues l), k + consumed l⟩ := by
  induction l generalizing acc k with
  | nil => simp [tryLoop, firstErr, okValues, consumed]
  | cons x rest ih =>
    cases x with
    | error e => simp [tryLoop, firstErr, consumed_cons_err]
    | ok v =>
      unfold tryLoop
      rw [ih, consumed_cons_ok]
      simp only [firstErr, okValues, List.filterMap_cons, List.reverse_cons, List.append_assoc,
        List.singleton_append]
      congr 1
      omega

theorem tryRawWrite_eq (cap : Nat) (l : List (Except ε α)) (acc : List α) (k : Nat)
    (h : acc.length + l.length ≤ cap) : tryRawWrite cap l acc k = .ok (tryLoop l acc k) := by
  induction l generalizing acc k with
  | nil => simp [tryRawWrite, tryLoop]
  | cons x rest ih =>
    simp only [List.length_cons] at h
    cases x with
    | error e => simp [tryRawWrite, tryLoop]
    | ok v =>
      unfold tryRawWrite tryLoop
      rw [if_pos (by omega), ih _ _ (by simp only [List.length_cons]; omega)]

theorem okValues_length_of_noErr (l : List (Except ε α)) (h : firstErr l = none) :
    (okValues l).length = l.length :=
  ((congrArg List.length ((firstErr_split l).1 h)).trans (List.length_map _)).symm

/-- the `uset` calls that store `items` at consecutive positions from `i` on -/
def seqWrites (items : List α) (i : Nat) : List (Nat × α) :=
  (items.zipIdx i).map fun p => (p.2, p.1)

theorem writeEach_eq (items : List α) (i n : Nat) (acc : List (Nat × α)) (h : n ≤ items.length) :
    writeEach items i n acc = ⟨.ok, acc.reverse ++ seqWrites (items.take n) i⟩ := by
  induction n generalizing items i acc with
  | zero => cases items <;> simp [writeEach, seqWrites]
  | succ n ih =>
    cases items with
    | nil => simp at h
    | cons v rest =>
      simp only [List.length_cons] at h
      unfold writeEach
      rw [ih _ _ _ (by omega)]
      simp [seqWrites, List.zipIdx_cons]

theorem writeEach_short (items : List α) (i n : Nat) (acc : List (Nat × α)) (h : items.length < n) :
    (writeEach items i n acc).status = .panic := by
  induction n generalizing items i acc with
  | zero => omega
  | succ n ih =>
    cases items with
    | nil => simp [writeEach]
    | cons v rest =>
      simp only [List.length_cons] at h
      unfold writeEach
      exact ih _ _ _ (by omega)

theorem applyWrites_append (buf : List (Option α)) (w1 w2 : List (Nat × α)) :
    applyWrites buf (w1 ++ w2) = applyWrites (applyWrites buf w1) w2 := by
  induction w1 generalizing buf with
  | nil => rfl
  | cons w rest ih => obtain ⟨i, v⟩ := w; simp [applyWrites, ih]

theorem set_first_none (pre : List (Option α)) (m : Nat) (x : Option α) :
    (pre ++ List.replicate (m + 1) none).set pre.length x = pre ++ [x] ++ List.replicate m none := by
  rw [List.set_append_right _ _ (Nat.le_refl _), Nat.sub_self, List.replicate_succ, List.set_cons_zero,
    List.append_assoc]
  rfl

theorem applyWrites_seq (done items : List α) :
    applyWrites (done.map some ++ List.replicate items.length none) (seqWrites items done.length) =
      (done ++ items).map some := by
  induction items generalizing done with
  | nil => rw [List.append_nil]; exact List.append_nil _
  | cons v rest ih =>
    have hset := set_first_none (done.map some) rest.length (some v)
    rw [List.length_map] at hset
    have := ih (done ++ [v])
    rw [List.length_append, List.map_append, List.append_assoc done] at this
    simp only [seqWrites, List.zipIdx_cons, List.map_cons, applyWrites, hset, List.length_cons]
    exact this

theorem applyWrites_all (items : List α) :
    applyWrites (uninit α items.length) (seqWrites items 0) = items.map some :=
  applyWrites_seq [] items

theorem seqWrites_replicate (v : α) (m d : Nat) :
    seqWrites (List.replicate m v) d = (List.range m).map fun i => (d + i, v) := by
  apply List.ext_getElem <;> simp [seqWrites]

theorem applyWrites_bcast (v : α) (m : Nat) :
    applyWrites (uninit α m) ((List.range m).map fun i => (i, v)) = (List.replicate m v).map some := by
  simpa [seqWrites_replicate] using applyWrites_all (List.replicate m v)

end Tv.C19
