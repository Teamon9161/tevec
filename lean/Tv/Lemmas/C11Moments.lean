import Tv.Lemmas.C11Fold
import Mathlib.Tactic.Ring
import Mathlib.Tactic.FieldSimp
import Mathlib.Tactic.Linarith
import Mathlib.Tactic.Positivity
import Mathlib.Algebra.Order.Field.Rat
/-!
  C11 helper lemmas: central moments. The one-pass power sums of agg.rs / tea-agg divided by the
  count (`rawm`) give the centred ("textbook") moments of `Tv/Spec/Stats.lean`. Then the fold state
  of `vapply_n` in these terms, positivity of the even moments, and the shape of a masked result
  (`if n < required then null else value`).
-/
namespace Tv.C11
open Tv Tv.Spec

theorem csum_nil (k : Nat) (c : Rat) : csum k c [] = 0 := rfl
theorem csum_cons (k : Nat) (c x : Rat) (l : List Rat) :
    csum k c (x :: l) = (x - c) ^ k + csum k c l := rfl

theorem csum_perm (k : Nat) (c : Rat) {l₁ l₂ : List Rat} (h : l₁.Perm l₂) :
    csum k c l₁ = csum k c l₂ := sum_perm (h.map _)

section Perm
variable {l₁ l₂ : List Rat}

theorem mean_perm (h : l₁.Perm l₂) : Spec.mean l₁ = Spec.mean l₂ := by
  unfold Spec.mean; rw [sum_perm h, h.length_eq]

theorem cmom_perm (k : Nat) (h : l₁.Perm l₂) : cmom k l₁ = cmom k l₂ := by
  unfold cmom; rw [mean_perm h, csum_perm k _ h, h.length_eq]

theorem sampleVar_perm (h : l₁.Perm l₂) : Spec.sampleVar l₁ = Spec.sampleVar l₂ := by
  unfold Spec.sampleVar; rw [mean_perm h, csum_perm 2 _ h, h.length_eq]

theorem skewOf_perm (h : l₁.Perm l₂) : Spec.skewOf l₁ = Spec.skewOf l₂ := by
  unfold Spec.skewOf; rw [cmom_perm 2 h, cmom_perm 3 h, h.length_eq]

theorem kurtOf_perm (h : l₁.Perm l₂) : Spec.kurtOf l₁ = Spec.kurtOf l₂ := by
  unfold Spec.kurtOf; rw [cmom_perm 2 h, cmom_perm 4 h, h.length_eq]

end Perm

theorem csum2_expand (c : Rat) (l : List Rat) :
    csum 2 c l = psum 2 l - 2 * c * psum 1 l + (l.length : Rat) * (c * c) := by
  induction l with
  | nil => simp only [csum_nil, psum_nil, List.length_nil, Nat.cast_zero]; ring
  | cons x l ih => simp only [csum_cons, ih, psum_cons, List.length_cons, Nat.cast_succ]; ring

theorem csum3_expand (c : Rat) (l : List Rat) :
    csum 3 c l = psum 3 l - 3 * c * psum 2 l + 3 * (c * c) * psum 1 l
      - (l.length : Rat) * (c * c * c) := by
  induction l with
  | nil => simp only [csum_nil, psum_nil, List.length_nil, Nat.cast_zero]; ring
  | cons x l ih => simp only [csum_cons, ih, psum_cons, List.length_cons, Nat.cast_succ]; ring

theorem csum4_expand (c : Rat) (l : List Rat) :
    csum 4 c l = psum 4 l - 4 * c * psum 3 l + 6 * (c * c) * psum 2 l - 4 * (c * c * c) * psum 1 l
      + (l.length : Rat) * (c * c * c * c) := by
  induction l with
  | nil => simp only [csum_nil, psum_nil, List.length_nil, Nat.cast_zero]; ring
  | cons x l ih => simp only [csum_cons, ih, psum_cons, List.length_cons, Nat.cast_succ]; ring

/-- raw moment `Σ x^k / n`: what the one-pass closures hold after dividing by the count -/
def rawm (k : Nat) (l : List Rat) : Rat := psum k l / (l.length : Rat)

theorem mean_eq_rawm (l : List Rat) : Spec.mean l = rawm 1 l := by
  unfold rawm; rw [psum_one]; rfl

theorem psum_eq_mul (k : Nat) {l : List Rat} (hn : l.length ≠ 0) :
    psum k l = (l.length : Rat) * rawm k l :=
  (mul_div_cancel₀ _ (Nat.cast_ne_zero.mpr hn)).symm

theorem cmom2_raw (l : List Rat) (hn : l.length ≠ 0) :
    cmom 2 l = rawm 2 l - rawm 1 l * rawm 1 l := by
  unfold cmom
  rw [div_eq_iff (Nat.cast_ne_zero.mpr hn), csum2_expand, mean_eq_rawm]
  simp only [psum_eq_mul _ hn]
  ring

-- the next two keep `cmom 2 l` for the variance: the form in which `vskew` / `vkurt` compute
theorem cmom3_raw (l : List Rat) (hn : l.length ≠ 0) :
    cmom 3 l = rawm 3 l - 3 * rawm 1 l * cmom 2 l - rawm 1 l * rawm 1 l * rawm 1 l := by
  rw [cmom2_raw l hn]
  unfold cmom
  rw [div_eq_iff (Nat.cast_ne_zero.mpr hn), csum3_expand, mean_eq_rawm]
  simp only [psum_eq_mul _ hn]
  ring

theorem cmom4_raw (l : List Rat) (hn : l.length ≠ 0) :
    cmom 4 l = rawm 4 l - 4 * rawm 1 l * rawm 3 l + 6 * (rawm 1 l * rawm 1 l) * cmom 2 l
      + 3 * (rawm 1 l * rawm 1 l * (rawm 1 l * rawm 1 l)) := by
  rw [cmom2_raw l hn]
  unfold cmom
  rw [div_eq_iff (Nat.cast_ne_zero.mpr hn), csum4_expand, mean_eq_rawm]
  simp only [psum_eq_mul _ hn]
  ring

theorem csum2_eq_n_mul_cmom2 (l : List Rat) (hn : l.length ≠ 0) :
    csum 2 (Spec.mean l) l = cmom 2 l * (l.length : Rat) :=
  (div_mul_cancel₀ _ (Nat.cast_ne_zero.mpr hn)).symm

theorem EPS_eq : C11.EPS = Spec.EPS := rfl

theorem sgn_eq (q : Rat) : C11.sgn q = Spec.sgn q := rfl

theorem EPS_pos : (0 : Rat) < Spec.EPS := by
  unfold Spec.EPS; norm_num

theorem pows_n (xs : List (Option Rat)) : (pows xs).n = (valid xs).length := by rw [pows_eq]

theorem pows_s1 (xs : List (Option Rat)) : (pows xs).s1 = Spec.sum (valid xs) := by
  rw [pows_eq]; exact psum_one _

theorem pows_m1 (xs : List (Option Rat)) :
    (pows xs).s1 / ((valid xs).length : Rat) = rawm 1 (valid xs) := by rw [pows_eq]; rfl
theorem pows_m3 (xs : List (Option Rat)) :
    (pows xs).s3 / ((valid xs).length : Rat) = rawm 3 (valid xs) := by rw [pows_eq]; rfl
theorem pows_m4 (xs : List (Option Rat)) :
    (pows xs).s4 / ((valid xs).length : Rat) = rawm 4 (valid xs) := by rw [pows_eq]; rfl

theorem pows_pvar (xs : List (Option Rat)) (hn : (valid xs).length ≠ 0) :
    (pows xs).pvar = cmom 2 (valid xs) := by
  rw [cmom2_raw _ hn, pows_eq]; rfl

/-- the model's `res = (m4 - 4·m1·m3)/var² + 6·m1²/var + 3·(m1²/var)²`, brought over the common
denominator `var²`, is `μ4 / μ2²` -/
theorem kurt_res_eq (l : List Rat) (hn : l.length ≠ 0) (hv : cmom 2 l ≠ 0) :
    (rawm 4 l - 4 * rawm 1 l * rawm 3 l) / (cmom 2 l * cmom 2 l)
        + 6 * (rawm 1 l * rawm 1 l / cmom 2 l)
        + 3 * (rawm 1 l * rawm 1 l / cmom 2 l * (rawm 1 l * rawm 1 l / cmom 2 l))
      = cmom 4 l / (cmom 2 l * cmom 2 l) := by
  rw [div_mul_div_comm, ← mul_div_mul_right (rawm 1 l * rawm 1 l) _ hv, mul_div_assoc',
    mul_div_assoc', ← add_div, ← add_div, ← mul_assoc 6, ← cmom4_raw l hn]

/-! ### a positive spread has a positive fourth central moment -/

theorem csum_even_nonneg {k : Nat} (hk : Even k) (c : Rat) (l : List Rat) : 0 ≤ csum k c l := by
  induction l with
  | nil => exact le_rfl
  | cons x l ih => exact add_nonneg (hk.pow_nonneg _) ih

theorem csum_even_eq_zero_iff {k : Nat} (hk : Even k) (hk0 : k ≠ 0) (c : Rat) (l : List Rat) :
    csum k c l = 0 ↔ ∀ x ∈ l, x = c := by
  induction l with
  | nil => exact ⟨fun _ _ h => absurd h List.not_mem_nil, fun _ => rfl⟩
  | cons x l ih =>
    rw [csum_cons, add_eq_zero_iff_of_nonneg (hk.pow_nonneg _) (csum_even_nonneg hk c l), ih,
      pow_eq_zero_iff hk0, sub_eq_zero, List.forall_mem_cons]

theorem cmom4_ne_zero (l : List Rat) (hn : l.length ≠ 0) (hv : cmom 2 l ≠ 0) : cmom 4 l ≠ 0 := by
  intro h4
  apply hv
  unfold cmom at h4 ⊢
  rw [div_eq_zero_iff, or_iff_left (Nat.cast_ne_zero.mpr hn),
    csum_even_eq_zero_iff (by decide) (by decide)] at h4
  rw [(csum_even_eq_zero_iff (by decide) (by decide) _ _).mpr h4, zero_div]

theorem cmom2_nonneg (l : List Rat) : 0 ≤ cmom 2 l :=
  div_nonneg (csum_even_nonneg (by decide) _ _) (Nat.cast_nonneg _)

theorem sampleVar_nonneg (l : List Rat) (h2 : 2 ≤ l.length) : 0 ≤ Spec.sampleVar l :=
  div_nonneg (csum_even_nonneg (by decide) _ _)
    (sub_nonneg.mpr (Nat.one_le_cast.mpr (Nat.le_trans (by decide) h2)))

/-- `n/(n-1) ≤ 2` from two observations on: the sample variance is at most twice the population
variance -/
theorem sampleVar_le (l : List Rat) (h2 : 2 ≤ l.length) : Spec.sampleVar l ≤ 2 * cmom 2 l := by
  have hq : (2 : Rat) ≤ (l.length : Rat) := Nat.ofNat_le_cast.mpr h2
  unfold Spec.sampleVar
  rw [csum2_eq_n_mul_cmom2 l (Nat.ne_of_gt (Nat.lt_of_lt_of_le (by decide) h2)),
    div_le_iff₀ (sub_pos.mpr (one_lt_two.trans_le hq)), ← sub_nonneg,
    show 2 * cmom 2 l * ((l.length : Rat) - 1) - cmom 2 l * (l.length : Rat)
      = cmom 2 l * ((l.length : Rat) - 2) by ring]
  exact mul_nonneg (cmom2_nonneg l) (sub_nonneg.mpr hq)

theorem ite_ge_eq {α : Type _} (n k : Nat) (a b : α) :
    (if n ≥ k then a else b) = if n < k then b else a :=
  (ite_not _ _ _).symm.trans (if_congr Nat.not_le rfl rfl)

theorem mask_max {α : Type _} (n mp k : Nat) (a b : α) :
    (if n < mp then b else if n ≥ k then a else b) = if n < max mp k then b else a := by
  rw [ite_ge_eq]
  by_cases h : n < mp
  · rw [if_pos h, if_pos (lt_max_of_lt_left h)]
  · rw [if_neg h]
    exact if_congr ⟨lt_max_of_lt_right, fun h' => (lt_max_iff.mp h').resolve_left h⟩ rfl rfl

theorem ite_null_iff {c : Prop} [Decidable c] {o : Out} (h : o ≠ .null) :
    (if c then Out.null else o) = .null ↔ c := by
  by_cases hc : c
  · rw [if_pos hc]; exact iff_of_true rfl hc
  · rw [if_neg hc]; exact iff_of_false h hc

theorem ite_ne {α : Type _} {c : Prop} [Decidable c] {a b z : α} (ha : a ≠ z) (hb : b ≠ z) :
    (if c then a else b) ≠ z := by
  split
  · exact ha
  · exact hb

/-- a mean under `min_periods`: NaN (null, or `0/0` when `min_periods = 0`) exactly below
`max min_periods 1` observations -/
theorem mean_nan_iff (n mp : Nat) (q : Rat) :
    ((if n < mp then Out.null else if n = 0 then .degen else .val q) = .null ∨
      (if n < mp then Out.null else if n = 0 then .degen else .val q) = .degen) ↔ n < max mp 1 := by
  by_cases h : n < mp
  · rw [if_pos h]; exact iff_of_true (Or.inl rfl) (lt_max_of_lt_left h)
  · rw [if_neg h]
    by_cases h0 : n = 0
    · rw [if_pos h0]; exact iff_of_true (Or.inr rfl) (lt_max_of_lt_right (h0 ▸ Nat.one_pos))
    · rw [if_neg h0]
      exact iff_of_false (fun h' => h'.elim nofun nofun)
        fun h' => (lt_max_iff.mp h').elim h fun h1 => h0 (Nat.lt_one_iff.mp h1)

theorem div_length (l : List Rat) :
    Out.div (Spec.sum l) (l.length : Rat)
      = if l.length = 0 then .degen else .val (Spec.mean l) :=
  if_congr Nat.cast_eq_zero rfl rfl

end Tv.C11
