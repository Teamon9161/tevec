import Tv.Model.C03Cmp
/-!
  The cached-extreme invariant of cmp.rs, for an arbitrary null-last total preorder `le`
  (instantiated with `leNL` = `sort_cmp` and `geNL` = `sort_cmp_rev`).

  `IsExtLast le g lo hi (m, k)`: `k` is the *last* position in `lo..=hi` whose value is
  `le`-minimal, and `m` is that value.
-/
namespace Tv.C03
open Tv

structure LeOK (le : Option Rat → Option Rat → Bool) : Prop where
  refl : ∀ a, le a a = true
  total : ∀ a b, le a b = true ∨ le b a = true
  trans : ∀ {a b c}, le a b = true → le b c = true → le a c = true

theorem leNL_ok : LeOK leNL where
  refl := by intro a; cases a <;> simp [leNL]
  total := by
    intro a b; cases a <;> cases b <;> simp [leNL]
    exact Rat.le_total
  trans := by
    intro a b c h1 h2
    cases a <;> cases b <;> cases c <;> simp_all [leNL]
    exact Rat.le_trans h1 h2

theorem geNL_ok : LeOK geNL where
  refl := by intro a; cases a <;> simp [geNL]
  total := by
    intro a b; cases a <;> cases b <;> simp [geNL]
    exact Rat.le_total
  trans := by
    intro a b c h1 h2
    cases a <;> cases b <;> cases c <;> simp_all [geNL]
    exact Rat.le_trans h2 h1

theorem LeOK.of_false {le} (h : LeOK le) {a b : Option Rat} (hab : le a b = false) : le b a = true := by
  cases h.total a b with
  | inl h' => rw [hab] at h'; cases h'
  | inr h' => exact h'

structure IsExtLast (le : Option Rat → Option Rat → Bool) (g : Nat → Option Rat)
    (lo hi : Nat) (st : ExtSt) : Prop where
  idx : ∃ k, st.2 = some k ∧ lo ≤ k ∧ k ≤ hi ∧ g k = st.1
  isMin : ∀ i, lo ≤ i → i ≤ hi → le st.1 (g i) = true
  isLast : ∀ k, st.2 = some k → ∀ i, k < i → i ≤ hi → le (g i) st.1 = false

variable {le : Option Rat → Option Rat → Bool}

theorem upd_extends (hle : LeOK le) (g : Nat → Option Rat) (lo hi : Nat) (st : ExtSt)
    (h : IsExtLast le g lo hi st) : IsExtLast le g lo (hi+1) (upd le g st (hi+1)) := by
  unfold upd updV
  by_cases hc : le (g (hi+1)) st.1 = true
  · simp only [hc, if_true]
    refine ⟨⟨hi+1, rfl, ?_, Nat.le_refl _, rfl⟩, ?_, ?_⟩
    · obtain ⟨k, _, hk1, hk2, _⟩ := h.idx; omega
    · intro i hi1 hi2
      by_cases hlast : i = hi+1
      · subst hlast; exact hle.refl _
      · exact hle.trans hc (h.isMin i hi1 (by omega))
    · intro k hk i hki hi2
      simp at hk; omega
  · have hc' : le (g (hi+1)) st.1 = false := by simpa using hc
    simp only [hc', Bool.false_eq_true, if_false]
    refine ⟨?_, ?_, ?_⟩
    · obtain ⟨k, hk0, hk1, hk2, hk3⟩ := h.idx
      exact ⟨k, hk0, hk1, by omega, hk3⟩
    · intro i hi1 hi2
      by_cases hlast : i = hi+1
      · subst hlast; exact hle.of_false hc'
      · exact h.isMin i hi1 (by omega)
    · intro k hk i hki hi2
      by_cases hlast : i = hi+1
      · subst hlast; exact hc'
      · exact h.isLast k hk i hki (by omega)

/-- the first step of the rescan loop compares `uget(start)` with itself -/
theorem upd_self (hle : LeOK le) (g : Nat → Option Rat) (i : Nat) (k : Option Nat) :
    upd le g (g i, k) i = (g i, some i) := by
  unfold upd updV
  simp only [hle.refl, if_true]

theorem isExtLast_single (hle : LeOK le) (g : Nat → Option Rat) (i : Nat) :
    IsExtLast le g i i (g i, some i) := by
  refine ⟨⟨i, rfl, Nat.le_refl _, Nat.le_refl _, rfl⟩, ?_, ?_⟩
  · intro j h1 h2; have : j = i := by omega
    subst this; exact hle.refl _
  · intro k hk j h1 h2; simp at hk; omega

theorem foldl_upd_extends (hle : LeOK le) (g : Nat → Option Rat) (lo : Nat) :
    ∀ (n hi : Nat) (st : ExtSt), IsExtLast le g lo hi st →
      IsExtLast le g lo (hi+n) ((List.range' (hi+1) n).foldl (upd le g) st) := by
  intro n
  induction n with
  | zero => intro hi st h; simpa using h
  | succ n ih =>
    intro hi st h
    rw [List.range'_succ, List.foldl_cons]
    have := ih (hi+1) _ (upd_extends hle g lo hi st h)
    have e : hi + 1 + n = hi + (n+1) := by omega
    rw [e] at this
    exact this

theorem rescan_spec (hle : LeOK le) (g : Nat → Option Rat) (st : ExtSt) (s e : Nat) (h : s ≤ e) :
    IsExtLast le g s e (rescan le g st s e) := by
  unfold rescan
  have hlen : e + 1 - s = (e - s) + 1 := by omega
  rw [hlen, List.range'_succ, List.foldl_cons, upd_self hle]
  have := foldl_upd_extends hle g s (e - s) s _ (isExtLast_single hle g s)
  have e2 : s + (e - s) = e := by omega
  rw [e2] at this
  exact this

theorem isExtLast_drop_head (g : Nat → Option Rat) (lo hi : Nat) (st : ExtSt)
    (h : IsExtLast le g lo hi st) (hk : ∀ k, st.2 = some k → lo < k) :
    IsExtLast le g (lo+1) hi st := by
  refine ⟨?_, ?_, h.isLast⟩
  · obtain ⟨k, hk0, hk1, hk2, hk3⟩ := h.idx
    exact ⟨k, hk0, hk k hk0, hk2, hk3⟩
  · intro i h1 h2; exact h.isMin i (by omega) h2

theorem extStep_first (hle : LeOK le) (g : Nat → Option Rat) (start : Option Nat)
    (hs : start = none ∨ start = some 0) :
    IsExtLast le g 0 0 (extStep le g (none, none) start 0 (g 0)) := by
  have key := isExtLast_single hle g 0
  unfold extStep
  cases hv : g 0 with
  | none =>
    rcases hs with hs | hs <;> subst hs
    · simp [ltON, updV, hle.refl]
      rw [hv] at key; exact key
    · simp only [Option.isSome_none, Bool.false_and, Bool.false_eq_true, if_false, ltON, if_true]
      exact rescan_spec hle g _ 0 0 (Nat.le_refl _)
  | some x =>
    rw [hv] at key
    rcases hs with hs | hs <;> subst hs <;> simp [ltON, updV, hle.refl] <;> exact key

/-- every later call: the window `lo..=e` either grows on the right (`start` is `None` or still
`Some(lo)`) or slides by one (`start = Some(lo+1)`) -/
theorem extStep_next (hle : LeOK le) (g : Nat → Option Rat) (st : ExtSt) (lo e : Nat)
    (start : Option Nat) (lo' : Nat)
    (hs : (start = none ∧ lo' = lo) ∨ (start = some lo ∧ lo' = lo) ∨ (start = some (lo+1) ∧ lo' = lo+1))
    (h : IsExtLast le g lo e st) :
    IsExtLast le g lo' (e+1) (extStep le g st start (e+1) (g (e+1))) := by
  obtain ⟨k, hk0, hk1, hk2, hk3⟩ := h.idx
  have hsome : st.2.isNone = false := by rw [hk0]; rfl
  unfold extStep
  simp only [hsome, Bool.and_false, Bool.false_eq_true, if_false]
  rcases hs with ⟨hs, hl⟩ | ⟨hs, hl⟩ | ⟨hs, hl⟩ <;> subst hs <;> subst hl
  · have : ltON st.2 none = false := by cases st.2 <;> rfl
    simp only [this, Bool.false_eq_true, if_false]
    exact upd_extends hle g lo' e st h
  · have : ltON st.2 (some lo') = false := by rw [hk0]; simp [ltON]; omega
    simp only [this, Bool.false_eq_true, if_false]
    exact upd_extends hle g lo' e st h
  · by_cases hexp : ltON st.2 (some (lo+1)) = true
    · simp only [hexp, if_true]
      exact rescan_spec hle g st (lo+1) (e+1) (by omega)
    · have hexp' : ltON st.2 (some (lo+1)) = false := by simpa using hexp
      simp only [hexp', Bool.false_eq_true, if_false]
      have hks : lo + 1 ≤ k := by
        rw [hk0] at hexp'; simp [ltON] at hexp'; exact hexp'
      have hd := isExtLast_drop_head g lo e st h
        (by intro k' hk'; rw [hk0] at hk'; cases hk'; omega)
      exact upd_extends hle g (lo+1) e st hd

/-- the predicate determines the pair: it really is "the extreme, most recent on ties" -/
theorem isExtLast_unique (hle : LeOK le) (hanti : ∀ a b, le a b = true → le b a = true → a = b)
    (g : Nat → Option Rat) (lo hi : Nat) (s t : ExtSt)
    (hs : IsExtLast le g lo hi s) (ht : IsExtLast le g lo hi t) : s = t := by
  obtain ⟨k, hk0, hk1, hk2, hk3⟩ := hs.idx
  obtain ⟨j, hj0, hj1, hj2, hj3⟩ := ht.idx
  have hv : s.1 = t.1 := by
    apply hanti
    · rw [← hj3]; exact hs.isMin j hj1 hj2
    · rw [← hk3]; exact ht.isMin k hk1 hk2
  have hkj : k = j := by
    rcases Nat.lt_trichotomy k j with hlt | heq | hgt
    · have := hs.isLast k hk0 j hlt hj2
      rw [hj3, ← hv, hle.refl] at this; cases this
    · exact heq
    · have := ht.isLast j hj0 k hgt hk2
      rw [hk3, hv, hle.refl] at this; cases this
  have hi2 : s.2 = t.2 := by rw [hk0, hj0, hkj]
  exact Prod.ext hv hi2

theorem leNL_antisymm (a b : Option Rat) (h1 : leNL a b = true) (h2 : leNL b a = true) : a = b := by
  cases a <;> cases b <;> simp_all [leNL]
  exact Rat.le_antisymm h1 h2

theorem geNL_antisymm (a b : Option Rat) (h1 : geNL a b = true) (h2 : geNL b a = true) : a = b := by
  cases a <;> cases b <;> simp_all [geNL]
  exact Rat.le_antisymm h2 h1

end Tv.C03
