import Tv.Model.C18Parse
/-! C18 — the `&str` primitives and the scanner of `TimeDelta::parse`: slicing between char
  boundaries, the cursor invariant under which the repaired scanner is total, and the scanner's
  one-step equations. -/
namespace Tv.C18

theorem utf8Len_cons (c : Char) (cs : List Char) : utf8Len (c :: cs) = c.utf8Size + utf8Len cs := rfl

theorem utf8Len_append (a b : List Char) : utf8Len (a ++ b) = utf8Len a + utf8Len b := by
  induction a with
  | nil => simp [utf8Len]
  | cons c cs ih => simp [utf8Len, ih, Nat.add_assoc]

theorem dropBytes_zero (s : List Char) : dropBytes s 0 = some s := by
  cases s <;> rfl

theorem takeBytes_zero (s : List Char) : takeBytes s 0 = some [] := by
  cases s <;> rfl

theorem utf8Size_add_eq_succ (c : Char) (n : Nat) : ∃ k, c.utf8Size + n = k + 1 :=
  ⟨_, (Nat.succ_pred_eq_of_pos (Nat.add_pos_left (Char.utf8Size_pos c) n)).symm⟩

theorem dropBytes_cons (c : Char) (cs : List Char) (n : Nat) :
    dropBytes (c :: cs) (c.utf8Size + n) = dropBytes cs n := by
  obtain ⟨k, hk⟩ := utf8Size_add_eq_succ c n
  rw [hk, dropBytes, ← hk, if_pos (Nat.le_add_right _ _), Nat.add_sub_cancel_left]

theorem takeBytes_cons (c : Char) (cs : List Char) (n : Nat) :
    takeBytes (c :: cs) (c.utf8Size + n) = (takeBytes cs n).map (c :: ·) := by
  obtain ⟨k, hk⟩ := utf8Size_add_eq_succ c n
  rw [hk, takeBytes, ← hk, if_pos (Nat.le_add_right _ _), Nat.add_sub_cancel_left]

theorem dropBytes_append (pre rest : List Char) : dropBytes (pre ++ rest) (utf8Len pre) = some rest := by
  induction pre with
  | nil => exact dropBytes_zero rest
  | cons c cs ih => rw [utf8Len_cons, List.cons_append, dropBytes_cons, ih]

theorem takeBytes_append (mid rest : List Char) : takeBytes (mid ++ rest) (utf8Len mid) = some mid := by
  induction mid with
  | nil => exact takeBytes_zero rest
  | cons c cs ih =>
    rw [utf8Len_cons, List.cons_append, takeBytes_cons, ih]
    rfl

theorem slice_mid (pre mid rest : List Char) :
    slice (pre ++ mid ++ rest) (utf8Len pre) (utf8Len pre + utf8Len mid) = some mid := by
  unfold slice
  simp only [Nat.le_add_right, ↓reduceIte, List.append_assoc, dropBytes_append, Option.bind_some,
    Nat.add_sub_cancel_left, takeBytes_append]

/-- the cursor invariant: `start` and the iterator offset are char boundaries of `s`,
    `start ≤ off`, and the iterator holds exactly the text after `off` -/
def SliceInv (s : List Char) (start off : Nat) (rest : List Char) : Prop :=
  ∃ pre mid, s = pre ++ mid ++ rest ∧ start = utf8Len pre ∧ off = utf8Len pre + utf8Len mid

theorem SliceInv.step {s : List Char} {start off : Nat} {c : Char} {cs : List Char}
    (h : SliceInv s start off (c :: cs)) : SliceInv s start (off + c.utf8Size) cs := by
  obtain ⟨pre, mid, hs, h1, h2⟩ := h
  exact ⟨pre, mid ++ [c], by simp [hs], h1, by simp [h2, utf8Len_append, utf8Len, Nat.add_assoc]⟩

theorem SliceInv.restart {s : List Char} {start off : Nat} {rest : List Char}
    (h : SliceInv s start off rest) : SliceInv s off off rest := by
  obtain ⟨pre, mid, hs, _, h2⟩ := h
  have h3 : off = utf8Len (pre ++ mid) := by rw [h2, utf8Len_append]
  exact ⟨pre ++ mid, [], by simp [hs], h3, h3⟩

theorem SliceInv.slice {s : List Char} {start off : Nat} {rest : List Char}
    (h : SliceInv s start off rest) : ∃ m, slice s start off = some m := by
  obtain ⟨pre, mid, hs, h1, h2⟩ := h
  rw [hs, h1, h2]
  exact ⟨mid, slice_mid ..⟩

theorem unitLoop_inv {s cs : List Char} :
    ∀ {ch : Char} {unit : List Char} {start off : Nat} {u : List Char} {start' off' : Nat} {rest' : List Char},
      SliceInv s start off (ch :: cs) →
      unitLoop ch unit start (off + ch.utf8Size) cs = (u, start', off', rest') →
      SliceInv s start' off' rest' := by
  induction cs with
  | nil =>
    intro ch unit start off u start' off' rest' h he
    simp only [unitLoop] at he
    split at he <;> cases he <;> exact h.step
  | cons c cs ih =>
    intro ch unit start off u start' off' rest' h he
    simp only [unitLoop] at he
    split at he
    · exact ih h.step.restart he
    · cases he
      exact h.step

theorem finish_repaired_total (st : St) : (finish .repaired st).isPanic = false := by
  unfold finish
  simp only
  split
  · rfl
  · split <;> rfl

theorem applyUnit_repaired_error {st : St} {n : Int} {unit : List Char} {e : Res}
    (h : applyUnit .repaired st n unit = .error e) : e.isPanic = false := by
  unfold applyUnit at h
  split at h
  · cases h
    rfl
  · simp only at h
    unfold applyRepaired at h
    split at h <;> split at h <;> cases h <;> rfl

theorem scan_repaired_total (s : List Char) (st : St) (off : Nat) (rest : List Char)
    (h : SliceInv s st.start off rest) : (scan .repaired s st off rest).isPanic = false := by
  fun_induction scan .repaired s st off rest with
  | case1 st off => exact finish_repaired_total st
  | case2 st off ch cs htrig hsl =>
    obtain ⟨m, hm⟩ := h.slice
    rw [hm] at hsl
    cases hsl
  | case3 st off ch cs htrig num hsl hn hv => cases hv
  | case4 => rfl
  | case5 => rfl
  | case6 st off ch cs htrig num hsl n hn unit start' off' rest' hloop hne e happ =>
    exact applyUnit_repaired_error happ
  | case7 st off ch cs htrig num hsl n hn unit start' off' rest' hloop hne st' happ ih =>
    exact ih (unitLoop_inv h hloop)
  | case8 st off ch cs htrig ih => exact ih h.step

theorem scan_nil {v : Version} {s : List Char} {st : St} {off : Nat} :
    scan v s st off [] = finish v st := by
  rw [scan]

theorem scan_skip {v : Version} {s : List Char} {st : St} {off : Nat} {ch : Char} {cs : List Char}
    (h : ch.isDigit = true ∨ off = 0) :
    scan v s st off (ch :: cs) = scan v s st (off + ch.utf8Size) cs := by
  conv => lhs; rw [scan.eq_def]
  have : (!ch.isDigit && off != 0) = false := by
    rcases h with h | h <;> simp [h]
  simp only [this, Bool.false_eq_true, ↓reduceIte]

theorem scan_trigger {v : Version} {s : List Char} {st : St} {off : Nat} {ch : Char} {cs : List Char}
    {num : List Char} {n : Int} {unit : List Char} {start' off' : Nat} {rest' : List Char}
    (hd : ch.isDigit = false) (ho : off ≠ 0) (hsl : slice s st.start off = some num)
    (hn : parseI64 num = some n)
    (hl : unitLoop ch [] st.start (off + ch.utf8Size) cs = (unit, start', off', rest'))
    (hu : unit ≠ []) :
    scan v s st off (ch :: cs) =
      match applyUnit v st n unit with
      | .error e => e
      | .ok st' => scan v s { st' with start := start' } off' rest' := by
  conv => lhs; rw [scan.eq_def]
  have : (!ch.isDigit && off != 0) = true := by simp [hd, ho]
  simp only [this, ↓reduceIte, hsl, hn]
  rw [hl]
  have : unit.isEmpty = false := by cases unit <;> simp_all
  simp only [this, Bool.false_eq_true, ↓reduceIte]
  rfl

theorem scan_trigger_numfail {s : List Char} {st : St} {off : Nat} {ch : Char} {cs : List Char}
    {num : List Char}
    (hd : ch.isDigit = false) (ho : off ≠ 0) (hsl : slice s st.start off = some num)
    (hn : parseI64 num = none) :
    scan .repaired s st off (ch :: cs) = .err .num := by
  rw [scan.eq_def]
  have : (!ch.isDigit && off != 0) = true := by simp [hd, ho]
  simp only [this, ↓reduceIte, hsl, hn]

end Tv.C18
