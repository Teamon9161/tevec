import Tv.Spec.C16Calendar
import Mathlib.Tactic.SplitIfs
import Mathlib.Tactic.IntervalCases
/-!
  The two calendar functions of the C16 / C17 specification are inverse to each other, for every
  integer day count and every calendar date of any year.

  Both factor through the same three numbers: the 400-year era, the year of the era and the day of
  that year (eras and years begin on 1 March). `InYear y doy` says that the pair names a day; the day
  of the era `yearStart y + doy` determines the pair (`InYear.unique`). `civilFromDays` finds the pair
  (`inYear_yoe`) and prints it with `dateOf`; `daysFromCivil` reads it back (`daysFromCivil_parts`).
-/
namespace Tv.C16.Spec

/-- days of the era before its year `y` -/
def yearStart (y : Int) : Int := 365 * y + y / 4 - y / 100

theorem yearStart_succ (y : Int) :
    yearStart y + 365 ≤ yearStart (y + 1) ∧ yearStart (y + 1) ≤ yearStart y + 366 := by
  unfold yearStart; omega

theorem yearStart_succ_leap {y : Int} (h4 : (y + 1) % 4 = 0) (h100 : (y + 1) % 100 ≠ 0) :
    yearStart (y + 1) = yearStart y + 366 := by
  unfold yearStart; omega

theorem yearStart_mono {a b : Int} (h : a ≤ b) : yearStart a ≤ yearStart b := by
  unfold yearStart; omega

def isLeapYear (y : Int) : Prop := (y % 4 = 0 ∧ y % 100 ≠ 0) ∨ y % 400 = 0
instance (y : Int) : Decidable (isLeapYear y) := by unfold isLeapYear; infer_instance

def daysInMonth (y m : Int) : Int :=
  if m = 2 then (if isLeapYear y then 29 else 28)
  else if m = 4 ∨ m = 6 ∨ m = 9 ∨ m = 11 then 30 else 31

def ValidDate (y m d : Int) : Prop := 1 ≤ m ∧ m ≤ 12 ∧ 1 ≤ d ∧ d ≤ daysInMonth y m

/-- `doy` is a day of year `y` of an era. The last year has one day more than `yearStart 400`
allows for: the 29 February that ends the era. -/
def InYear (y doy : Int) : Prop :=
  0 ≤ y ∧ y ≤ 399 ∧ 0 ≤ doy ∧ (yearStart y + doy < yearStart (y + 1) ∨ y = 399 ∧ doy ≤ 365)

theorem inYear_of_le {y doy : Int} (h0 : 0 ≤ y) (h1 : y ≤ 399) (d0 : 0 ≤ doy) (d1 : doy ≤ 364) :
    InYear y doy :=
  ⟨h0, h1, d0, Or.inl (by have := (yearStart_succ y).1; omega)⟩

/-- in a leap civil year `y`, year `y - 1` of the eras has a day 365: 29 February -/
theorem inYear_of_leap {y era yoe doy : Int} (h0 : 0 ≤ yoe) (h1 : yoe ≤ 399) (hy : y - 1 = era * 400 + yoe)
    (hl : isLeapYear y) (d0 : 0 ≤ doy) (d1 : doy ≤ 365) : InYear yoe doy := by
  unfold isLeapYear at hl
  have := @yearStart_succ_leap yoe
  have := (yearStart_succ yoe).1
  exact ⟨h0, h1, d0, by omega⟩

theorem InYear.doy_le {y doy : Int} (h : InYear y doy) : doy ≤ 365 := by
  have := (yearStart_succ y).2
  have := h.2.2.2
  omega

theorem InYear.doe_range {y doy : Int} (h : InYear y doy) :
    0 ≤ yearStart y + doy ∧ yearStart y + doy < 146097 := by
  obtain ⟨h0, h1, h2, h3⟩ := h
  have a : 0 ≤ yearStart y := yearStart_mono (a := 0) h0
  have b : yearStart (y + 1) ≤ 146096 := yearStart_mono (b := 400) (by omega)
  have c : yearStart y ≤ 145731 := yearStart_mono (b := 399) h1
  omega

theorem InYear.unique {y d y' d' : Int} (h : InYear y d) (h' : InYear y' d')
    (e : yearStart y + d = yearStart y' + d') : y = y' ∧ d = d' := by
  obtain ⟨_, _, _, h3⟩ := h
  obtain ⟨_, _, _, h3'⟩ := h'
  -- were `y < y'`, the whole of year `y` would lie before year `y'`
  have m := @yearStart_mono (y + 1) y'
  have m' := @yearStart_mono (y' + 1) y
  obtain rfl : y = y' := by omega
  exact ⟨rfl, by omega⟩

/-- `civilFromDays` takes `yoeNum n / 365` for the year of day `n` of the era -/
def yoeNum (n : Int) : Int := n - n / 1460 + n / 36524 - n / 146096

theorem yoeNum_mono {a b : Int} (h : a ≤ b) : yoeNum a ≤ yoeNum b := by
  unfold yoeNum
  rw [Int.add_sub_assoc, Int.add_sub_assoc]
  -- `n - n / 1460` and `n / 36524 - n / 146096` are monotone, each for itself
  exact Int.add_le_add (by omega) (by omega)

/-- the year estimate on the first and the last day of each of the 400 years of an era: a finite
table, checked by evaluation (the one fact of this file that is left to the kernel) -/
theorem yoeNum_yearStart_nat : ∀ y : Nat, y < 400 → 365 * (y : Int) ≤ yoeNum (yearStart y) ∧
    yoeNum (yearStart (y + 1) - 1) < 365 * ((y : Int) + 1) := by
  decide +kernel

theorem yoeNum_yearStart {y : Int} (h0 : 0 ≤ y) (h1 : y ≤ 399) :
    365 * y ≤ yoeNum (yearStart y) ∧ yoeNum (yearStart (y + 1) - 1) < 365 * (y + 1) := by
  obtain ⟨k, rfl⟩ := Int.eq_ofNat_of_zero_le h0
  exact yoeNum_yearStart_nat k (by omega)

/-- The estimate is right on every day of the era. `yoeNum` is monotone, so a day before the first
day of the estimated year `y` would have an estimate below `y`, as the last day of year `y - 1` has,
and a day after its last day an estimate above `y`, as the first day of year `y + 1` has. -/
theorem inYear_yoe {n : Int} (h0 : 0 ≤ n) (h1 : n < 146097) :
    InYear (yoeNum n / 365) (n - yearStart (yoeNum n / 365)) := by
  have lo : 0 ≤ yoeNum n := yoeNum_mono (a := 0) h0
  have hi : yoeNum n ≤ 145999 := yoeNum_mono (b := 146096) (by omega)
  generalize hy : yoeNum n / 365 = y
  have y0 : 0 ≤ y := by omega
  have y1 : y ≤ 399 := by omega
  have below := @yoeNum_yearStart (y - 1)
  rw [Int.sub_add_cancel] at below
  have mono := @yoeNum_mono n (yearStart y - 1)
  have first : y ≤ 0 → yearStart y ≤ 0 := @yearStart_mono y 0  -- year 0 has no year before it
  have lower : yearStart y ≤ n := by omega
  clear below mono first
  have above := @yoeNum_yearStart (y + 1)
  have mono := @yoeNum_mono (yearStart (y + 1)) n
  have last : 399 ≤ y → 145731 ≤ yearStart y := @yearStart_mono 399 y  -- and year 399 none after it
  exact ⟨y0, y1, by omega, by omega⟩

/-- the month with number `mp` counted from March (March is 0, February 11) -/
def monthOf (mp : Int) : Int := if mp < 10 then mp + 3 else mp - 9

/-- the number of month `m` counted from March -/
def monthIdx (m : Int) : Int := if m > 2 then m - 3 else m + 9

theorem monthOf_monthIdx {m : Int} (h1 : 1 ≤ m) (h2 : m ≤ 12) :
    monthOf (monthIdx m) = m ∧ 0 ≤ monthIdx m ∧ monthIdx m ≤ 11 := by
  unfold monthOf monthIdx; omega

theorem monthIdx_monthOf {mp : Int} (h0 : 0 ≤ mp) (h1 : mp ≤ 11) :
    monthIdx (monthOf mp) = mp ∧ 1 ≤ monthOf mp ∧ monthOf mp ≤ 12 := by
  unfold monthOf monthIdx; omega

/-- the date of day `doy` of year `y` of era `era`: the last stage of `civilFromDays` -/
def dateOf (era y doy : Int) : Int × Int × Int :=
  (if monthOf ((5 * doy + 2) / 153) ≤ 2 then y + era * 400 + 1 else y + era * 400,
    monthOf ((5 * doy + 2) / 153), doy - (153 * ((5 * doy + 2) / 153) + 2) / 5 + 1)

theorem civilFromDays_parts (z : Int) :
    ∃ era y doy, InYear y doy ∧ z = era * 146097 + (yearStart y + doy) - 719468 ∧
      civilFromDays z = dateOf era y doy := by
  have h0 : 0 ≤ z + 719468 - (z + 719468) / 146097 * 146097 := by omega
  have h1 : z + 719468 - (z + 719468) / 146097 * 146097 < 146097 := by omega
  exact ⟨_, _, _, inYear_yoe h0 h1, by omega, rfl⟩

theorem civilFromDays_of_parts {era y doy : Int} (h : InYear y doy) :
    civilFromDays (era * 146097 + (yearStart y + doy) - 719468) = dateOf era y doy := by
  obtain ⟨era', y', doy', h', e, hc⟩ := civilFromDays_parts (era * 146097 + (yearStart y + doy) - 719468)
  have r := h.doe_range
  have r' := h'.doe_range
  have he : era = era' := by omega
  subst he
  obtain ⟨rfl, rfl⟩ := h.unique h' (by omega)
  exact hc

theorem daysFromCivil_parts {y m d era yoe : Int} (h0 : 0 ≤ yoe) (h1 : yoe ≤ 399)
    (hy : (if m ≤ 2 then y - 1 else y) = era * 400 + yoe) :
    daysFromCivil y m d = era * 146097 +
      (yearStart yoe + ((153 * monthIdx m + 2) / 5 + d - 1)) - 719468 := by
  have e : (era * 400 + yoe) / 400 = era := by
    rw [Int.add_comm, Int.add_mul_ediv_right _ _ (by decide), Int.ediv_eq_zero_of_lt h0 (by omega),
      Int.zero_add]
  have e2 : era * 400 + yoe - era * 400 = yoe := by omega
  simp only [daysFromCivil, hy, e, e2, yearStart, monthIdx, Int.mul_comm yoe 365]

theorem civilFromDays_range (z : Int) :
    1 ≤ (civilFromDays z).2.1 ∧ (civilFromDays z).2.1 ≤ 12 ∧ 1 ≤ (civilFromDays z).2.2 ∧ (civilFromDays z).2.2 ≤ 31 := by
  obtain ⟨era, y, doy, h, _, hc⟩ := civilFromDays_parts z
  have := h.doy_le
  have := h.2.2.1
  have := monthIdx_monthOf (mp := (5 * doy + 2) / 153) (by omega) (by omega)
  rw [hc]
  simp only [dateOf]
  omega

theorem daysFromCivil_civilFromDays (z : Int) :
    daysFromCivil (civilFromDays z).1 (civilFromDays z).2.1 (civilFromDays z).2.2 = z := by
  obtain ⟨era, y, doy, h, hz, hc⟩ := civilFromDays_parts z
  have := h.doy_le
  obtain ⟨h0, h1, h2, _⟩ := h
  obtain ⟨e, _, _⟩ := monthIdx_monthOf (mp := (5 * doy + 2) / 153) (by omega) (by omega)
  rw [hc, hz]
  simp only [dateOf]
  rw [daysFromCivil_parts (era := era) h0 h1 (by omega), e]
  omega

/-- no month is longer than the `153`-formula allows for, and only a leap February reaches day 365
of the year that began in March -/
theorem daysInMonth_le {y m : Int} (h1 : 1 ≤ m) (h2 : m ≤ 12) :
    (153 * monthIdx m + 2) / 5 + daysInMonth y m ≤ (153 * (monthIdx m + 1) + 2) / 5 ∧
      ((153 * monthIdx m + 2) / 5 + daysInMonth y m ≤ 365 ∨
        m = 2 ∧ isLeapYear y ∧ (153 * monthIdx m + 2) / 5 + daysInMonth y m ≤ 366) := by
  unfold daysInMonth monthIdx
  interval_cases m <;> simp
  -- the eleven months of fixed length are closed by evaluation; what is left is February
  split_ifs with h
  · exact ⟨by omega, Or.inr ⟨h, by omega⟩⟩
  · omega

/-- a day inside the slot the `153`-formula gives month `mp` belongs to that month -/
theorem month_of_slot {mp doy : Int} (m0 : 0 ≤ mp) (m1 : mp ≤ 11) (h0 : (153 * mp + 2) / 5 ≤ doy)
    (h1 : doy < (153 * (mp + 1) + 2) / 5) : (5 * doy + 2) / 153 = mp := by
  omega

theorem dateOf_of_valid {y m d era yoe : Int} (hv : ValidDate y m d) (h0 : 0 ≤ yoe) (h1 : yoe ≤ 399)
    (hy : (if m ≤ 2 then y - 1 else y) = era * 400 + yoe) :
    InYear yoe ((153 * monthIdx m + 2) / 5 + d - 1) ∧
      dateOf era yoe ((153 * monthIdx m + 2) / 5 + d - 1) = (y, m, d) := by
  obtain ⟨hm1, hm2, hd1, hd2⟩ := hv
  obtain ⟨hmo, m0, m1⟩ := monthOf_monthIdx hm1 hm2
  obtain ⟨hslot, hlast⟩ := daysInMonth_le (y := y) hm1 hm2
  have hmp := month_of_slot m0 m1 (show _ ≤ (153 * monthIdx m + 2) / 5 + d - 1 by omega) (by omega)
  have d0 : 0 ≤ (153 * monthIdx m + 2) / 5 + d - 1 := by omega
  refine ⟨?_, ?_⟩
  · rcases hlast with hl | ⟨rfl, hleap, hl⟩
    · exact inYear_of_le h0 h1 d0 (by omega)
    · exact inYear_of_leap h0 h1 hy hleap d0 (by omega)
  · simp only [dateOf, hmp, hmo, Prod.mk.injEq]
    exact ⟨by omega, trivial, by omega⟩

theorem civilFromDays_daysFromCivil (y m d : Int) (hv : ValidDate y m d) :
    civilFromDays (daysFromCivil y m d) = (y, m, d) := by
  have hy := (Int.ediv_mul_add_emod (if m ≤ 2 then y - 1 else y) 400).symm
  have h0 := Int.emod_nonneg (if m ≤ 2 then y - 1 else y) (show (400 : Int) ≠ 0 by decide)
  have h1 : (if m ≤ 2 then y - 1 else y) % 400 ≤ 399 := by omega
  obtain ⟨hin, hd⟩ := dateOf_of_valid hv h0 h1 hy
  rw [daysFromCivil_parts h0 h1 hy, civilFromDays_of_parts hin, hd]

end Tv.C16.Spec
