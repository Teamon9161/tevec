import Tv.Lemmas.C03Ext
import Tv.Lemmas.C03Sem
/-!
  The four extrema closures of cmp.rs refine the from-scratch definitions: the value of the cached
  pair is `Spec.least` / `Spec.greatest` of the non-null window elements, its index is `Spec.lastPos`.
-/
namespace Tv.C03
open Tv

/-- `E` computes the `le`-least non-null element of a window (or `none` if all are null) -/
def ExtFn (le : Option Rat → Option Rat → Bool) (E : List Rat → Option Rat) : Prop :=
  ∀ (g : Nat → Option Rat) (lo hi : Nat) (m : ExtSt),
    IsExtLast le g lo hi m → E (Spec.vals (winL g lo hi)) = m.1

theorem vals_nil_of_all_none (g : Nat → Option Rat) (lo hi : Nat)
    (h : ∀ j, lo ≤ j → j ≤ hi → g j = none) : Spec.vals (winL g lo hi) = [] := by
  apply List.eq_nil_iff_forall_not_mem.mpr
  intro a ha
  obtain ⟨j, h1, h2, h3⟩ := (mem_vals_winL g lo hi a).mp ha
  rw [h j h1 h2] at h3; cases h3

theorem extFn_of {le : Option Rat → Option Rat → Bool} {R : Rat → Rat → Prop} [DecidableRel R]
    [Std.Total R] [IsTrans Rat R] [Std.Antisymm R] {E : List Rat → Option Rat} (hE : Extreme R E)
    (hsome : ∀ a b, le (some a) (some b) = true → R a b) (hnone : ∀ a, le none (some a) = false) :
    ExtFn le E := by
  intro g lo hi m h
  obtain ⟨k, hk0, hk1, hk2, hk3⟩ := h.idx
  cases hm : m.1 with
  | none =>
    have : Spec.vals (winL g lo hi) = [] := by
      apply vals_nil_of_all_none
      intro j h1 h2
      have := h.isMin j h1 h2
      rw [hm] at this
      cases hj : g j with
      | none => rfl
      | some a => rw [hj, hnone] at this; cases this
    rw [this]; exact hE.nil
  | some v =>
    apply extreme_char hE
    · exact (mem_vals_winL g lo hi v).mpr ⟨k, hk1, hk2, by rw [hk3, hm]⟩
    · intro a ha
      obtain ⟨j, h1, h2, h3⟩ := (mem_vals_winL g lo hi a).mp ha
      have := h.isMin j h1 h2
      rw [hm, h3] at this
      exact hsome v a this

theorem extFn_least : ExtFn leNL Spec.least :=
  extFn_of least_extreme (fun _ _ h => of_decide_eq_true h) fun _ => rfl

theorem extFn_greatest : ExtFn geNL Spec.greatest :=
  extFn_of greatest_extreme (fun _ _ h => of_decide_eq_true h) fun _ => rfl

theorem getLast?_filter_range (P : Nat → Bool) (n p : Nat) (hp : p < n) (hP : P p = true)
    (hlast : ∀ q, p < q → q < n → P q = false) :
    ((List.range n).filter P).getLast? = some p := by
  rw [range_split n (p+1) (by omega), List.filter_append]
  have h2 : ((List.range (n - (p+1))).map (· + (p+1))).filter P = [] := by
    apply List.filter_eq_nil_iff.mpr
    intro a ha
    obtain ⟨b, hb, rfl⟩ := List.mem_map.mp ha
    have hb' : b < n - (p+1) := by simpa using hb
    simp [hlast (b + (p+1)) (by omega) (by omega)]
  rw [h2, List.append_nil, List.range_succ, List.filter_append]
  simp [hP]

theorem lastPos_char (m : Rat) (L : List (Option Rat)) (p : Nat) (hp : p < L.length)
    (hat : L[p]? = some (some m))
    (hlast : ∀ q, p < q → q < L.length → L[q]? ≠ some (some m)) :
    Spec.lastPos m L = some (p + 1) := by
  unfold Spec.lastPos
  rw [getLast?_filter_range _ _ p hp]
  · simp
  · simp [hat]
  · intro q h1 h2
    simp only [decide_eq_false_iff_not]
    exact hlast q h1 h2

theorem lastPos_of_isExtLast {le : Option Rat → Option Rat → Bool} (hle : LeOK le)
    (g : Nat → Option Rat) (lo hi : Nat) (m : ExtSt) (v : Rat) (k : Nat)
    (h : IsExtLast le g lo hi m) (hv : m.1 = some v) (hk : m.2 = some k) :
    Spec.lastPos v (winL g lo hi) = some (k - lo + 1) := by
  obtain ⟨k', hk0, hk1, hk2, hk3⟩ := h.idx
  obtain rfl : k' = k := by rw [hk] at hk0; cases hk0; rfl
  have hlen : (winL g lo hi).length = hi + 1 - lo := by simp [winL]
  have hget : ∀ q, q < hi + 1 - lo → (winL g lo hi)[q]? = some (g (lo + q)) := by
    intro q hq
    simp [winL, hq]
  refine lastPos_char v _ (k' - lo) (by rw [hlen]; omega) ?_ fun q h1 h2 hc => ?_
  · rw [hget _ (by omega), show lo + (k' - lo) = k' by omega, hk3, hv]
  · rw [hlen] at h2
    rw [hget q h2] at hc
    have := h.isLast k' hk (lo + q) (by omega) (by omega)
    rw [Option.some.inj hc, hv, hle.refl] at this
    cases this

theorem lastPos_none (m : Rat) (L : List (Option Rat)) (h : ∀ q : Nat, L[q]? ≠ some (some m)) :
    Spec.lastPos m L = none := by
  unfold Spec.lastPos
  have : (List.range L.length).filter (fun k => decide (L[k]? = some (some m))) = [] := by
    apply List.filter_eq_nil_iff.mpr
    intro a _
    simp [h a]
  rw [this]; rfl

/-- generic from-scratch result (instantiated by `Spec.tsMin/tsMax/tsArgmin/tsArgmax`) -/
def specCmp (E : List Rat → Option Rat) (pj : Proj) (mp : Nat) (L : List (Option Rat)) : Out :=
  Spec.masked mp L (match pj with
    | .val => Spec.ofOpt (E (Spec.vals L))
    | _ => match E (Spec.vals L) with
      | some m => Spec.ofOptNat (Spec.lastPos m L)
      | none => .null)

/-- state of the closure before call `i` for a sliding window of size `W` -/
def CmpInv (le : Option Rat → Option Rat → Bool) (g : Nat → Option Rat) (W : Nat) :
    Nat → CmpSt → Prop
  | 0, st => st = ⟨none, none, 0⟩
  | j+1, st => IsExtLast le g (lo W j) j (st.ext, st.idx) ∧ st.n = cnt g (lo W (j+1)) (j+1)

theorem startAt_cases (W j : Nat) :
    (startAt W (j+1) = none ∧ lo W (j+1) = lo W j) ∨
    (startAt W (j+1) = some (lo W j) ∧ lo W (j+1) = lo W j) ∨
    (startAt W (j+1) = some (lo W j + 1) ∧ lo W (j+1) = lo W j + 1) := by
  unfold startAt lo
  by_cases h1 : W - 1 ≤ j + 1
  · by_cases h2 : W - 1 ≤ j
    · right; right
      simp only [h1, if_true]
      constructor
      · congr 1; omega
      · omega
    · right; left
      simp only [h1, if_true]
      constructor
      · congr 1; omega
      · omega
  · left
    simp only [h1, if_false]
    refine ⟨trivial, by omega⟩

theorem cmpStep_inv {le : Option Rat → Option Rat → Bool} {E : List Rat → Option Rat}
    (hle : LeOK le) (hE : ExtFn le E) (pj : Proj) (hp : pj = .val ∨ pj = .arg)
    (g : Nat → Option Rat) (W mp i : Nat) (st : CmpSt)
    (h : CmpInv le g W i st) :
    CmpInv le g W (i+1) (cmpStep le pj g mp st (startAt W i, i, g i)).1 ∧
    (cmpStep le pj g mp st (startAt W i, i, g i)).2 = specCmp E pj mp (winL g (lo W i) i) := by
  have hm : IsExtLast le g (lo W i) i (extStep le g (st.ext, st.idx) (startAt W i) i (g i)) ∧
      st.n = cnt g (lo W i) i := by
    cases i with
    | zero =>
      have hst : st = ⟨none, none, 0⟩ := h
      subst hst
      rw [lo_zero]
      refine ⟨extStep_first hle g _ ?_, (cnt_empty g 0).symm⟩
      unfold startAt; split <;> simp
    | succ j =>
      obtain ⟨h1, h2⟩ := h
      refine ⟨extStep_next hle g _ (lo W j) j _ _ (startAt_cases W j) h1, h2⟩
  obtain ⟨hm1, hm2⟩ := hm
  obtain ⟨hn1, hn2⟩ := cnt_step g W i st.n hm2
  constructor
  · exact ⟨hm1, hn2⟩
  · show (if (if (g i).isSome then st.n + 1 else st.n) ≥ mp then
            pj.out (extStep le g (st.ext, st.idx) (startAt W i) i (g i)) (startAt W i) else Out.null) = _
    rw [hn1]
    unfold specCmp Spec.masked
    rw [vals_length_winL, hE g (lo W i) i _ hm1]
    split
    · obtain ⟨k, hk0, hk1, hk2, hk3⟩ := hm1.idx
      generalize hmm : extStep le g (st.ext, st.idx) (startAt W i) i (g i) = m at hm1 hk0 hk3
      rcases hp with rfl | rfl
      · cases hv : m.1 <;> simp [Proj.out, optOut, Spec.ofOpt, hv]
      · cases hv : m.1 with
        | none => simp [Proj.out, offsetOut, hv]
        | some v =>
          simp only [Proj.out, hv, Option.bind_some]
          rw [lastPos_of_isExtLast hle g (lo W i) i m v k hm1 hv hk0, hk0]
          simp [offsetOut, Spec.ofOptNat, startAt_getD]
    · rfl

theorem cmp_run {le : Option Rat → Option Rat → Bool} {E : List Rat → Option Rat}
    (hle : LeOK le) (hE : ExtFn le E) (pj : Proj) (hp : pj = .val ∨ pj = .arg)
    (g : Nat → Option Rat) (W mp n : Nat) :
    runSt (cmpStep le pj g mp) ⟨none, none, 0⟩
        ((List.range n).map fun i => (startAt W i, i, g i))
      = (List.range n).map fun i => specCmp E pj mp (winL g (lo W i) i) := by
  apply runSt_range (cmpStep le pj g mp) _ (CmpInv le g W)
  · rfl
  · intro i s _ hP
    exact cmpStep_inv hle hE pj hp g W mp i s hP

/-- entry-point level: clamp of the window, default `min_periods`, either driver shape -/
theorem tsCmp_exact {le : Option Rat → Option Rat → Bool} {E : List Rat → Option Rat}
    (hle : LeOK le) (hE : ExtFn le E) (pj : Proj) (hp : pj = .val ∨ pj = .arg)
    (sh : Shape) (xs : List (Option Rat)) (w : Nat) (mp : Option Nat) (hw : 1 ≤ w) :
    tsCmp le pj sh xs w mp =
      (List.range xs.length).map fun i => specCmp E pj (cmpMp mp w xs.length) (window xs i w) :=
  idxCalls_run_clamped _ _ _ sh xs w hw fun _ => cmp_run hle hE pj hp (get xs) _ _ _

end Tv.C03
