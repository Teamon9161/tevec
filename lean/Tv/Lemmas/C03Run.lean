import Tv.Model.C03Cmp
import Tv.Lemmas.WindowIdx
/-!
  The index-driven closures of C03 (`rolling_apply_idx`) are proved correct position by position:
  the driver's call list is a `map` over the positions (`idxCalls_eq_map`), a closure is run over it
  with an invariant indexed by the position (`runSt_range`), and what it emits at `i` is compared
  with the window read back by position, `winL (get xs) (lo W i) i` (`idxCalls_run`). The count of
  valid elements every closure keeps is `cnt` (`cnt_step`).
-/
namespace Tv.C03
open Tv

theorem runSt_range' {σ γ β : Type} (f : σ → γ → σ × β) (c : Nat → γ) (P : Nat → σ → Prop)
    (out : Nat → β) (n : Nat)
    (hstep : ∀ i s, i < n → P i s → P (i+1) (f s (c i)).1 ∧ (f s (c i)).2 = out i) :
    ∀ (k a : Nat) (s : σ), a + k = n → P a s →
      runSt f s ((List.range' a k).map c) = (List.range' a k).map out := by
  intro k
  induction k with
  | zero => intro a s _ _; simp [runSt]
  | succ k ih =>
    intro a s hak hP
    rw [List.range'_succ]
    simp only [List.map_cons, runSt]
    obtain ⟨h1, h2⟩ := hstep a s (by omega) hP
    rw [h2, ih (a+1) _ (by omega) h1]

theorem runSt_range {σ γ β : Type} (f : σ → γ → σ × β) (c : Nat → γ) (P : Nat → σ → Prop)
    (out : Nat → β) (n : Nat) (s0 : σ) (h0 : P 0 s0)
    (hstep : ∀ i s, i < n → P i s → P (i+1) (f s (c i)).1 ∧ (f s (c i)).2 = out i) :
    runSt f s0 ((List.range n).map c) = (List.range n).map out := by
  have := runSt_range' f c P out n hstep n 0 s0 (by omega) h0
  simpa [List.range_eq_range'] using this

theorem get_eq (xs : List (Option Rat)) (i : Nat) (hi : i < xs.length) : get xs i = xs[i] := by
  simp [get, List.getElem?_eq_getElem hi]

theorem idxCalls_eq_map (sh : Shape) (xs : List (Option Rat)) (w : Nat) (hw : 1 ≤ w) :
    idxCalls sh xs w =
      (List.range xs.length).map (fun i => (startAt (C02.effW sh w xs.length) i, i, get xs i)) := by
  rw [C02.idxCalls_spec sh xs w hw]
  rw [← List.filterMap_eq_map]
  apply filterMap_congr'
  intro i hi
  have hi' : i < xs.length := by simpa using hi
  simp [List.getElem?_eq_getElem hi', get_eq xs i hi']

/-- first index of the window ending at `i` -/
def lo (W i : Nat) : Nat := i - (W - 1)

theorem lo_le (W i : Nat) : lo W i ≤ i := by unfold lo; omega

theorem lo_zero (W : Nat) : lo W 0 = 0 := Nat.zero_sub _

theorem startAt_getD (W i : Nat) : (startAt W i).getD 0 = lo W i := by
  unfold startAt lo; split <;> simp; omega

/-- the window `lo..=hi` as a list -/
def winL (g : Nat → Option Rat) (lo hi : Nat) : List (Option Rat) :=
  (List.range' lo (hi + 1 - lo)).map g

theorem winL_eq_window (xs : List (Option Rat)) (W i : Nat) (hW : 1 ≤ W) (hi : i < xs.length) :
    winL (get xs) (lo W i) i = window xs i W := by
  have e : lo W i = i + 1 - W := by unfold lo; omega
  rw [winL, e]
  exact (window_eq_map xs (get xs) i W hi fun k hk => by rw [get, List.getElem?_eq_getElem hk]; rfl).symm

theorem winL_snoc (g : Nat → Option Rat) (lo i : Nat) (h : lo ≤ i) :
    winL g lo i = (List.range' lo (i - lo)).map g ++ [g i] := by
  unfold winL
  have e1 : i + 1 - lo = (i - lo) + 1 := by omega
  rw [e1, List.range'_concat, List.map_append]
  have e2 : lo + (i - lo) = i := by omega
  simp [e2]

theorem winL_getLast? (g : Nat → Option Rat) (lo i : Nat) (h : lo ≤ i) :
    (winL g lo i).getLast? = some (g i) := by
  rw [winL_snoc g lo i h]; simp

theorem idxCalls_nil (sh : Shape) (w : Nat) : idxCalls sh ([] : List (Option Rat)) w = [] := by
  cases sh <;> simp [idxCalls, Shape.idx, toIdx, iterIdx]

theorem effW_min (sh : Shape) (len w : Nat) : C02.effW sh (min len w) len = min len w := by
  cases sh <;> simp [C02.effW]

/-- a closure that, run over the positions with sliding-window size `W`, emits `F` of the positions
`lo W i ..= i`, emits `F` of the window when driven by `rolling_apply_idx(_to)` in either shape -/
theorem idxCalls_run {σ : Type} (f : σ → Option Nat × Nat × Option Rat → σ × Out) (s0 : σ)
    (F : List (Option Rat) → Out) (sh : Shape) (xs : List (Option Rat)) (w : Nat) (hw : xs ≠ [] → 1 ≤ w)
    (hrun : 1 ≤ C02.effW sh w xs.length →
      runSt f s0 ((List.range xs.length).map fun i => (startAt (C02.effW sh w xs.length) i, i, get xs i))
        = (List.range xs.length).map fun i => F (winL (get xs) (lo (C02.effW sh w xs.length) i) i)) :
    runSt f s0 (idxCalls sh xs w) = (List.range xs.length).map fun i => F (window xs i w) := by
  by_cases hx : xs = []
  · subst hx; rw [idxCalls_nil]; rfl
  · have hW := C02.effW_pos sh w _ (hw hx) (List.length_pos_iff.2 hx)
    rw [idxCalls_eq_map sh xs w (hw hx), hrun hW]
    exact List.map_congr_left fun i hi => by
      rw [winL_eq_window xs _ i hW (List.mem_range.1 hi), C02.window_effW sh xs w i (List.mem_range.1 hi)]

/-- the same for the entry points of cmp.rs, which clamp the window to the length themselves -/
theorem idxCalls_run_clamped {σ : Type} (f : σ → Option Nat × Nat × Option Rat → σ × Out) (s0 : σ)
    (F : List (Option Rat) → Out) (sh : Shape) (xs : List (Option Rat)) (w : Nat) (hw : 1 ≤ w)
    (hrun : 1 ≤ min xs.length w →
      runSt f s0 ((List.range xs.length).map fun i => (startAt (min xs.length w) i, i, get xs i))
        = (List.range xs.length).map fun i => F (winL (get xs) (lo (min xs.length w) i) i)) :
    runSt f s0 (idxCalls sh xs (min xs.length w)) = (List.range xs.length).map fun i => F (window xs i w) := by
  rw [idxCalls_run f s0 F sh xs _ (fun hx => Nat.le_min.2 ⟨List.length_pos_iff.2 hx, hw⟩)
    (by rwa [effW_min])]
  exact List.map_congr_left fun i hi => by rw [Nat.min_comm, window_clamp xs i w (List.mem_range.1 hi)]

/-- number of non-null positions in `lo .. hi` (half open) -/
def cnt (g : Nat → Option Rat) (lo hi : Nat) : Nat :=
  (List.range' lo (hi - lo)).countP (fun j => (g j).isSome)

theorem cnt_empty (g : Nat → Option Rat) (a : Nat) : cnt g a a = 0 := by simp [cnt]

theorem cnt_snoc (g : Nat → Option Rat) (lo e : Nat) (h : lo ≤ e) :
    cnt g lo (e+1) = cnt g lo e + (if (g e).isSome then 1 else 0) := by
  unfold cnt
  have e1 : e + 1 - lo = (e - lo) + 1 := by omega
  rw [e1, List.range'_concat, List.countP_append]
  have e2 : lo + 1 * (e - lo) = e := by omega
  rw [e2]
  simp [List.countP_cons]

theorem cnt_drop (g : Nat → Option Rat) (lo hi : Nat) (h : lo < hi) :
    cnt g lo hi = (if (g lo).isSome then 1 else 0) + cnt g (lo+1) hi := by
  unfold cnt
  have e1 : hi - lo = (hi - (lo+1)) + 1 := by omega
  rw [e1, List.range'_succ, List.countP_cons]
  omega

/-- the count update of every index-based closure: `if v.is_some() { n += 1 }` before the
emit, `if start.is_some() && uget(start).not_none() { n -= 1 }` after it -/
theorem cnt_step (g : Nat → Option Rat) (W i n : Nat) (hn : n = cnt g (lo W i) i) :
    let n1 := if (g i).isSome then n + 1 else n
    n1 = cnt g (lo W i) (i+1) ∧
    (match startAt W i with
      | some s => if (g s).isSome then n1 - 1 else n1
      | none => n1) = cnt g (lo W (i+1)) (i+1) := by
  intro n1
  have h1 : n1 = cnt g (lo W i) (i+1) := by
    rw [cnt_snoc g _ _ (lo_le W i), ← hn]
    show (if (g i).isSome then n + 1 else n) = _
    split <;> simp
  refine ⟨h1, ?_⟩
  unfold startAt
  by_cases hc : W - 1 ≤ i
  · have e1 : lo W (i+1) = lo W i + 1 := by unfold lo; omega
    have e2 : i - (W - 1) = lo W i := rfl
    simp only [hc, if_true, e1, e2]
    rw [h1, cnt_drop g (lo W i) (i+1) (by omega)]
    split <;> simp
  · have e1 : lo W (i+1) = lo W i := by unfold lo; omega
    simp only [hc, if_false, e1]
    exact h1

end Tv.C03
