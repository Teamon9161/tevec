import Tv.Lemmas.C18Render
import Tv.Lemmas.C18Small
/-! C18 — the accumulation of the scanner against the from-scratch sum (`NoOverflow`). -/
namespace Tv.C18
open Spec

/-- the scanner state whose accumulators are the running totals of the specification -/
def stOf (a : Acc) (start : Nat) : St := { nsecs := a.sub, secs := a.sec, months := a.cal, start := start }

theorem stOf_init : stOf {} 0 = {} := rfl

def fieldOf : Class → Field
  | .sub => .nsecs
  | .sec => .secs
  | .cal => .months

theorem lookupUnit_name (u : TUnit) : lookupUnit u.name = some (fieldOf u.cls, u.mult) := by
  cases u <;> rfl

theorem inI64_eq_i64Ok (x : Int) : inI64 x = i64Ok x := rfl
theorem inI32_eq_i32Ok (x : Int) : inI32 x = i32Ok x := rfl

theorem addScaled_eq (acc n k : Int) :
    addScaled acc n k = if i64Ok (n * k) && i64Ok (acc + n * k) then some (acc + n * k) else none := by
  unfold addScaled
  rw [inI64_eq_i64Ok, inI64_eq_i64Ok]
  cases i64Ok (n * k) <;> rfl

theorem addMonths_eq (acc n k : Int) :
    addMonths acc n k =
      if i32Ok n && i32Ok (n * k) && i32Ok (acc + n * k) then some (acc + n * k) else none := by
  unfold addMonths
  rw [inI32_eq_i32Ok, inI32_eq_i32Ok, inI32_eq_i32Ok]
  cases i32Ok n <;> cases i32Ok (n * k) <;> rfl

theorem applyUnit_fits (a : Acc) (t : Term) (x : Nat) (hv : inI64 t.value = true) :
    applyUnit .repaired (stOf a x) t.value t.unit.name =
      if t.fits a then .ok (stOf (a.add t) x) else .error (.err .overflow) := by
  have hv' : i64Ok t.value = true := (inI64_eq_i64Ok t.value).symm.trans hv
  unfold applyUnit
  rw [lookupUnit_name]
  simp only
  unfold applyRepaired Term.fits Acc.add stOf
  cases t.unit.cls
  · simp only [fieldOf, addScaled_eq, hv', Bool.true_and]
    cases i64Ok (t.value * t.unit.mult) && i64Ok (a.sub + t.value * t.unit.mult) <;> rfl
  · simp only [fieldOf, addScaled_eq, hv', Bool.true_and]
    cases i64Ok (t.value * t.unit.mult) && i64Ok (a.sec + t.value * t.unit.mult) <;> rfl
  · simp only [fieldOf, addMonths_eq, hv', Bool.true_and]
    cases i32Ok t.value && i32Ok (t.value * t.unit.mult) && i32Ok (a.cal + t.value * t.unit.mult) <;> rfl

theorem finish_final (a : Acc) (x : Nat) :
    finish .repaired (stOf a x) =
      if a.final then .ok a.cal (a.sec * 1000000000 + a.sub) else .err .overflow := by
  unfold finish Acc.final durMaxSecs durMaxNanos stOf
  simp only [Bool.and_eq_true, decide_eq_true_eq]
  split
  · rw [if_neg (by omega)]
  · split
    · rw [if_neg (by omega)]
    · rw [if_pos (by omega)]

theorem runTerms_ok (ts : List Term) :
    ∀ (a : Acc) (x : Nat), noOverflowFrom a ts = true →
      runTerms (stOf a x) ts = .ok (a.cal + sumMonths ts) (a.sec * 1000000000 + a.sub + sumNanos ts) := by
  induction ts with
  | nil =>
    intro a x h
    simp only [noOverflowFrom] at h
    simp [runTerms, finish_final, h, sumMonths, sumNanos]
  | cons t ts ih =>
    intro a x h
    simp only [noOverflowFrom, Bool.and_eq_true] at h
    obtain ⟨hf, hrest⟩ := h
    have hv : inI64 t.value = true := (Bool.and_eq_true_iff.mp hf).1
    simp only [runTerms, hv, ↓reduceIte, applyUnit_fits a t x hv, hf]
    rw [ih (a.add t) x hrest, add_cal, add_nanos]
    simp only [sumMonths, sumNanos, List.map_cons, List.sum_cons]
    congr 1 <;> omega

theorem runTerms_err (ts : List Term) :
    ∀ (a : Acc) (x : Nat), noOverflowFrom a ts = false →
      runTerms (stOf a x) ts = .err .num ∨ runTerms (stOf a x) ts = .err .overflow := by
  induction ts with
  | nil =>
    intro a x h
    simp only [noOverflowFrom] at h
    exact Or.inr (by simp [runTerms, finish_final, h])
  | cons t ts ih =>
    intro a x h
    simp only [runTerms]
    by_cases hv : inI64 t.value = true
    · simp only [hv, ↓reduceIte, applyUnit_fits a t x hv]
      by_cases hf : t.fits a = true
      · simp only [hf, ↓reduceIte]
        exact ih (a.add t) x (by simpa [noOverflowFrom, hf] using h)
      · simp only [hf]
        exact Or.inr rfl
    · exact Or.inl (by simp [hv])

end Tv.C18
