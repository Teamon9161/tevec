import Tv.Model.C14Cut
import Tv.Spec.C14
/-! The binning part of C14: the model's bin tests over the windows of the edge vector are, position
by position, membership in the specification's intervals (`model_hits`), so `vcut` picks the label at
the first interval that contains the value (`vcut_eq`); for ascending edges the intervals are
disjoint, so the first is the only one. -/
namespace Tv.C14
open Tv.C14.Spec

theorem windows_eq_zip (e : List Int) : windows e = e.zip e.tail := by
  fun_induction windows e with
  | case1 a b t ih => simp only [List.tail_cons, List.zip_cons_cons, ih]
  | case2 e h =>
    match e, h with
    | [], _ => rfl
    | [a], _ => rfl
    | a :: b :: t, h => exact absurd rfl (h a b t)

theorem windows_getElem? (e : List Int) (k : Nat) :
    (windows e)[k]? = match e[k]?, e[k + 1]? with
      | some a, some b => some (a, b)
      | _, _ => none := by
  rw [windows_eq_zip, List.zip_eq_zipWith, List.getElem?_zipWith, List.getElem?_tail]
  cases e[k]? with
  | none => rfl
  | some a => cases e[k + 1]? <;> rfl

theorem snoc_getElem? {α : Type} (l : List α) (x : α) (k : Nat) :
    (l ++ [x])[k]? = if k < l.length then l[k]? else if k = l.length then some x else none := by
  rcases Nat.lt_trichotomy k l.length with h | h | h
  · rw [List.getElem?_append_left h, if_pos h]
  · subst h; rw [List.getElem?_concat_length, if_neg (Nat.lt_irrefl _), if_pos rfl]
  · rw [if_neg (Nat.lt_asymm h), if_neg (Nat.ne_of_gt h)]
    exact List.getElem?_eq_none (by rw [List.length_append]; exact h)

theorem intervals_getElem?_open (bins : List Int) (k : Nat) :
    (intervals bins true)[k]? =
      if k ≤ bins.length then some ⟨if k = 0 then none else bins[k - 1]?, bins[k]?⟩ else none := by
  unfold intervals
  simp only [if_true, List.getElem?_map, List.zip_eq_zipWith, List.getElem?_zipWith, snoc_getElem?,
    List.length_map]
  cases k with
  | zero =>
    cases bins <;> rfl
  | succ k =>
    simp only [List.getElem?_cons_succ, List.getElem?_map, Nat.add_sub_cancel, Nat.succ_ne_zero, if_false]
    rcases Nat.lt_trichotomy (k + 1) bins.length with h | h | h
    · rw [if_pos h, if_pos (Nat.le_of_lt h), List.getElem?_eq_getElem h,
        List.getElem?_eq_getElem (Nat.lt_of_succ_lt h)]; rfl
    · have hk : k < bins.length := h ▸ Nat.lt_succ_self k
      rw [if_neg (Nat.not_lt_of_ge (Nat.le_of_eq h.symm)), if_pos h, if_pos (Nat.le_of_eq h),
        List.getElem?_eq_getElem hk, List.getElem?_eq_none (Nat.le_of_eq h.symm)]; rfl
    · rw [if_neg (Nat.lt_asymm h), if_neg (Nat.ne_of_gt h), if_neg (Nat.not_le_of_gt h)]
      cases bins[k]? <;> rfl

theorem intervals_getElem?_closed (bins : List Int) (k : Nat) :
    (intervals bins false)[k]? =
      if k + 1 < bins.length then some ⟨bins[k]?, bins[k + 1]?⟩ else none := by
  unfold intervals
  simp only [Bool.false_eq_true, if_false, List.getElem?_map, List.zip_eq_zipWith, List.getElem?_zipWith,
    List.getElem?_drop, Nat.add_comm 1 k]
  by_cases h : k + 1 < bins.length
  · rw [if_pos h, List.getElem?_eq_getElem h, List.getElem?_eq_getElem (Nat.lt_of_succ_lt h)]; rfl
  · rw [if_neg h, List.getElem?_eq_none (Nat.le_of_not_lt h)]
    cases bins[k]? <;> rfl

/-- with open bounds the test of bin `k` ignores the lower edge when `k = 0` and the upper edge
when `k = last`: it is membership in the interval whose ends are then `none` -/
theorem binTest_open (right : Bool) (last : Nat) (v : Int) (k : Nat) (a b : Int) (lo hi : Option Int)
    (hlo : lo = if k = 0 then none else some a) (hhi : hi = if k = last then none else some b) :
    binTest right true last v k (a, b) = Interval.contains right ⟨lo, hi⟩ v := by
  subst hlo hhi
  simp only [binTest, Interval.contains, Bool.true_and]
  congr 1
  · by_cases h : k = 0 <;> simp [h]
  · by_cases h : k = last <;> simp [h]

theorem hit_open (MIN MAX : Int) (bins : List Int) (right : Bool) (v : Int) (k : Nat) :
    ((windows (MIN :: (bins ++ [MAX])))[k]?).map (binTest right true bins.length v k)
      = ((intervals bins true)[k]?).map (·.contains right v) := by
  have hlen : (bins ++ [MAX]).length = bins.length + 1 := List.length_append
  rw [windows_getElem?, intervals_getElem?_open, List.getElem?_cons_succ]
  by_cases hk : k ≤ bins.length
  · rw [if_pos hk, List.getElem?_eq_getElem (l := bins ++ [MAX]) (by omega),
      List.getElem?_eq_getElem (l := MIN :: (bins ++ [MAX])) (by rw [List.length_cons]; omega)]
    refine congrArg some (binTest_open right _ v k _ _ _ _ ?_ ?_)
    · cases k with
      | zero => rfl
      | succ k =>
        rw [if_neg (Nat.succ_ne_zero k), if_neg (Nat.succ_ne_zero k), Nat.add_sub_cancel,
          List.getElem?_eq_getElem hk, List.getElem_cons_succ, List.getElem_append_left hk]
    · rcases Nat.lt_or_eq_of_le hk with h | h
      · rw [if_neg (Nat.ne_of_lt h), List.getElem?_eq_getElem h, List.getElem_append_left h]
      · rw [if_pos h, List.getElem?_eq_none (Nat.le_of_eq h.symm)]
  · rw [if_neg hk, List.getElem?_eq_none (l := bins ++ [MAX]) (by omega)]
    cases (MIN :: (bins ++ [MAX]))[k]? <;> rfl

theorem hit_closed (bins : List Int) (right : Bool) (lastBin : Nat) (v : Int) (k : Nat) :
    ((windows bins)[k]?).map (binTest right false lastBin v k)
      = ((intervals bins false)[k]?).map (·.contains right v) := by
  rw [windows_getElem?, intervals_getElem?_closed]
  by_cases h : k + 1 < bins.length
  · rw [if_pos h, List.getElem?_eq_getElem h, List.getElem?_eq_getElem (Nat.lt_of_succ_lt h)]
    simp only [Option.map_some, binTest, Interval.contains, Bool.false_and, Bool.false_or]
  · rw [if_neg h, List.getElem?_eq_none (Nat.le_of_not_lt h)]
    cases bins[k]? <;> rfl

/-- for every interval of the specification, whether it contains `v` -/
def hits (bins : List Int) (ab right : Bool) (v : Int) : List Bool :=
  (intervals bins ab).map (·.contains right v)

theorem hits_getElem? (bins : List Int) (ab right : Bool) (v : Int) (k : Nat) :
    (hits bins ab right v)[k]? = ((intervals bins ab)[k]?).map (·.contains right v) := by
  simp [hits]

theorem hits_true_iff (bins : List Int) (ab right : Bool) (v : Int) (k : Nat) :
    (hits bins ab right v)[k]? = some true ↔
      ∃ I, (intervals bins ab)[k]? = some I ∧ I.contains right v = true := by
  rw [hits_getElem?, Option.map_eq_some_iff]

theorem model_hits (MIN MAX : Int) (bins : List Int) (ab right : Bool) (v : Int) :
    let edges := if ab then MIN :: (bins ++ [MAX]) else bins
    ((windows edges).zipIdx 0).map (fun p => binTest right ab (edges.length - 2) v p.2 p.1)
      = hits bins ab right v := by
  intro edges
  apply List.ext_getElem?
  intro k
  rw [hits_getElem?, List.getElem?_map, List.getElem?_zipIdx, Option.map_map]
  cases ab with
  | true =>
    have hl : edges.length - 2 = bins.length := by simp [edges]
    rw [hl, ← hit_open MIN MAX bins right v k]
    simp [edges, Function.comp_def]
  | false =>
    rw [← hit_closed bins right (edges.length - 2) v k]
    simp [edges, Function.comp_def]

/-- label paired with the first `true` of a list of hits -/
def pick {L : Type} (H : List Bool) (ls : List L) : Option L := ((H.zip ls).find? (·.1)).map (·.2)

theorem pick_nil_right {L : Type} (H : List Bool) : pick H ([] : List L) = none := by
  rw [pick, List.zip_nil_right]; rfl
theorem pick_cons_false {L : Type} (H : List Bool) (l : L) (ls : List L) :
    pick (false :: H) (l :: ls) = pick H ls := rfl

/-- the search loop of `vcut` returns the label at the first window whose test succeeds -/
theorem firstMatch_eq_pick {L : Type} (test : Nat → Int × Int → Bool) (i0 : Nat) (ws : List (Int × Int))
    (ls : List L) :
    firstMatch test i0 (ws.zip ls) = pick ((ws.zipIdx i0).map (fun p => test p.2 p.1)) ls := by
  induction ws generalizing ls i0 with
  | nil => rfl
  | cons w ws ih =>
    cases ls with
    | nil => exact (pick_nil_right _).symm
    | cons l ls =>
      rw [List.zip_cons_cons, firstMatch, List.zipIdx_cons, List.map_cons]
      cases test i0 w with
      | true => rfl
      | false => exact (ih (i0 + 1) ls).trans (pick_cons_false _ l ls).symm

theorem pick_spec {L : Type} (H : List Bool) (ls : List L) (hlen : ls.length = H.length) :
    (∀ l, pick H ls = some l → ∃ k : Nat, H[k]? = some true ∧ ls[k]? = some l) ∧
    (pick H ls = none → ∀ k : Nat, H[k]? ≠ some true) := by
  induction H generalizing ls with
  | nil => exact ⟨nofun, fun _ _ => nofun⟩
  | cons b H ih =>
    cases ls with
    | nil => exact nomatch hlen
    | cons l ls =>
      cases b with
      | true => exact ⟨fun _ h => ⟨0, rfl, h⟩, nofun⟩
      | false =>
        obtain ⟨h1, h2⟩ := ih ls (Nat.succ_inj.mp hlen)
        refine ⟨fun l' h => (h1 l' h).elim fun k hk => ⟨k + 1, hk⟩, fun h k => ?_⟩
        cases k with
        | zero => exact nofun
        | succ k => exact h2 h k

def Ascending (bins : List Int) : Prop := bins.Pairwise (· ≤ ·)

theorem asc_le (bins : List Int) (hasc : Ascending bins) (i j : Nat) (hij : i ≤ j) (hj : j < bins.length) :
    bins[i]'(by omega) ≤ bins[j] := by
  rcases Nat.lt_or_eq_of_le hij with h | h
  · exact (List.pairwise_iff_getElem.mp hasc) i j (by omega) hj h
  · subst h; exact Int.le_refl _

/-- for ascending edges an earlier interval ends no later than a later one begins, so no value
lies in both -/
theorem intervals_disjoint (bins : List Int) (hasc : Ascending bins) (ab right : Bool) (v : Int)
    (i j : Nat) (I J : Interval) (hij : i < j)
    (hi : (intervals bins ab)[i]? = some I) (hj : (intervals bins ab)[j]? = some J)
    (hI : I.contains right v = true) (hJ : J.contains right v = true) : False := by
  obtain ⟨a, b, h1, h2, hab⟩ : ∃ a b, I.hi = some a ∧ J.lo = some b ∧ a ≤ b := by
    cases ab with
    | true =>
      rw [intervals_getElem?_open] at hi hj
      by_cases hjl : j ≤ bins.length
      · have hil : i < bins.length := Nat.lt_of_lt_of_le hij hjl
        have hj1 : j - 1 < bins.length := Nat.sub_one_lt_of_le (Nat.zero_lt_of_lt hij) hjl
        rw [if_pos (Nat.le_of_lt hil)] at hi
        rw [if_pos hjl, if_neg (Nat.ne_of_gt (Nat.zero_lt_of_lt hij))] at hj
        cases hi; cases hj
        exact ⟨bins[i], bins[j - 1], List.getElem?_eq_getElem hil, List.getElem?_eq_getElem hj1,
          asc_le bins hasc i (j - 1) (Nat.le_sub_one_of_lt hij) hj1⟩
      · rw [if_neg hjl] at hj; cases hj
    | false =>
      rw [intervals_getElem?_closed] at hi hj
      by_cases hjl : j + 1 < bins.length
      · have hil : i + 1 < bins.length := Nat.lt_trans (Nat.succ_lt_succ hij) hjl
        rw [if_pos hil] at hi
        rw [if_pos hjl] at hj
        cases hi; cases hj
        exact ⟨bins[i + 1], bins[j], List.getElem?_eq_getElem hil, List.getElem?_eq_getElem (Nat.lt_of_succ_lt hjl),
          asc_le bins hasc (i + 1) j hij (Nat.lt_of_succ_lt hjl)⟩
      · rw [if_neg hjl] at hj; cases hj
  simp only [Interval.contains, h1, h2, Bool.and_eq_true] at hI hJ
  cases right
  · simp only [Bool.false_eq_true, if_false, decide_eq_true_eq] at hI hJ
    exact Int.lt_irrefl v (Int.lt_of_lt_of_le hI.2 (Int.le_trans hab hJ.1))
  · simp only [if_true, decide_eq_true_eq] at hI hJ
    exact Int.lt_irrefl v (Int.lt_of_le_of_lt (Int.le_trans hI.2 hab) hJ.1)

theorem contains_unique (bins : List Int) (hasc : Ascending bins) (ab right : Bool) (v : Int)
    (i j : Nat) (I J : Interval)
    (hi : (intervals bins ab)[i]? = some I) (hj : (intervals bins ab)[j]? = some J)
    (hI : I.contains right v = true) (hJ : J.contains right v = true) : i = j := by
  rcases Nat.lt_trichotomy i j with h | h | h
  · exact (intervals_disjoint bins hasc ab right v i j I J h hi hj hI hJ).elim
  · exact h
  · exact (intervals_disjoint bins hasc ab right v j i J I h hj hi hJ hI).elim

/-- with open outer bounds some interval contains `v`: the first one whose upper edge is not below `v` -/
theorem open_exists_hit (bins : List Int) (right : Bool) (v : Int) :
    ∃ (k : Nat) (I : Interval), (intervals bins true)[k]? = some I ∧ I.contains right v = true := by
  let up : Int → Bool := fun b => if right then decide (v ≤ b) else decide (v < b)
  have hk : bins.findIdx up ≤ bins.length := List.findIdx_le_length
  refine ⟨bins.findIdx up, _, by rw [intervals_getElem?_open, if_pos hk], ?_⟩
  simp only [Interval.contains, Bool.and_eq_true]
  constructor
  · split
    next => rfl
    next a ha =>
      split at ha
      · cases ha
      next h0 =>
        have hlt : bins.findIdx up - 1 < bins.findIdx up := Nat.sub_one_lt h0
        have hb := List.not_of_lt_findIdx hlt
        rw [List.getElem?_eq_getElem (Nat.lt_of_lt_of_le hlt hk)] at ha
        cases ha
        cases right <;> simpa [up] using hb
  · split
    next => rfl
    next b hb =>
      have hlt : bins.findIdx up < bins.length := (List.getElem?_eq_some_iff.mp hb).1
      rw [List.getElem?_eq_getElem hlt] at hb
      cases hb
      exact List.findIdx_getElem (w := hlt)

theorem intervals_length (bins : List Int) (ab : Bool) :
    (intervals bins ab).length = nEdges bins ab - 1 := by
  cases ab <;> simp [intervals, nEdges]

theorem labels_length {L : Type} (bins : List Int) (labels : List L) (ab : Bool)
    (hlen : labels.length + 1 = nEdges bins ab) : labels.length = (intervals bins ab).length := by
  rw [intervals_length, ← hlen, Nat.add_sub_cancel]

/-- the outcome for one element in terms of the specification's intervals (appears in
`C14.cut_getElem?` and `cut_value_of`; characterised by `itemOf_some`) -/
def itemOf {L : Type} (bins : List Int) (labels : List L) (ab right : Bool) : Option Int → Item L
  | none => .null
  | some v =>
    match pick (hits bins ab right v) labels with
    | some l => .label l
    | none => .outside

/-- what a non-null value gets: the label of an interval that contains it, or `outside` when no
interval does -/
theorem itemOf_some {L : Type} (bins : List Int) (labels : List L) (ab right : Bool) (v : Int)
    (hlen : labels.length + 1 = nEdges bins ab) :
    (∃ (k : Nat) (I : Interval) (l : L), (intervals bins ab)[k]? = some I ∧ I.contains right v = true ∧
        labels[k]? = some l ∧ itemOf bins labels ab right (some v) = .label l) ∨
    ((∀ (k : Nat) (I : Interval), (intervals bins ab)[k]? = some I → I.contains right v = false) ∧
        itemOf bins labels ab right (some v) = .outside) := by
  have hp := pick_spec (hits bins ab right v) labels
    ((labels_length bins labels ab hlen).trans (List.length_map _).symm)
  simp only [itemOf]
  cases hpk : pick (hits bins ab right v) labels with
  | some l =>
    obtain ⟨k, hk, hl⟩ := hp.1 l hpk
    obtain ⟨I, hI, hIv⟩ := (hits_true_iff bins ab right v k).mp hk
    exact Or.inl ⟨k, I, l, hI, hIv, hl, rfl⟩
  | none =>
    refine Or.inr ⟨fun k I hI => ?_, rfl⟩
    cases hc : I.contains right v with
    | false => rfl
    | true => exact absurd ((hits_true_iff bins ab right v k).mpr ⟨I, hI, hc⟩) (hp.2 hpk k)

/-- the pinned / repaired model outcome as a specification outcome -/
def Item.toOutcome {L : Type} : Item L → Outcome L
  | .label l => .label l
  | .null => .null
  | .outside => .outside

theorem hitAt_iff (ivs : List Interval) (right : Bool) (v : Int) (k : Nat) :
    hitAt ivs right v k = true ↔ ∃ I, ivs[k]? = some I ∧ I.contains right v = true := by
  unfold hitAt
  cases ivs[k]? with
  | none => exact ⟨nofun, fun ⟨_, h, _⟩ => nomatch h⟩
  | some I => exact ⟨fun h => ⟨I, rfl, h⟩, fun ⟨_, h, hv⟩ => Option.some.inj h ▸ hv⟩

theorem filter_range_singleton (p : Nat → Bool) (n k : Nat) (hk : k < n) (hp : p k = true)
    (huniq : ∀ j, j < n → p j = true → j = k) : (List.range n).filter p = [k] := by
  induction n with
  | zero => exact absurd hk (Nat.not_lt_zero k)
  | succ n ih =>
    rw [List.range_succ, List.filter_append]
    rcases Nat.lt_or_eq_of_le (Nat.le_of_lt_succ hk) with hkn | hkn
    · have hn : p n = false := by
        cases hpn : p n with
        | false => rfl
        | true => exact absurd (huniq n (Nat.lt_succ_self n) hpn) (Nat.ne_of_gt hkn)
      rw [ih hkn fun j hj => huniq j (Nat.lt_succ_of_lt hj), List.filter_cons_of_neg (by rw [hn]; exact nofun)]
      rfl
    · subst hkn
      have : (List.range k).filter p = [] :=
        List.filter_eq_nil_iff.mpr fun a ha hpa =>
          Nat.ne_of_lt (List.mem_range.mp ha) (huniq a (Nat.lt_succ_of_lt (List.mem_range.mp ha)) hpa)
      rw [this, List.filter_cons_of_pos hp]
      rfl

/-- for ascending edges the interval that gave the label is the only one containing the value,
which is what the specification asks for -/
theorem itemOf_eq_cutOne {L : Type} (bins : List Int) (hasc : Ascending bins) (labels : List L)
    (ab right : Bool) (hlen : labels.length + 1 = nEdges bins ab) (x : Option Int) :
    (itemOf bins labels ab right x).toOutcome = cutOne (intervals bins ab) labels right x := by
  cases x with
  | none => rfl
  | some v =>
    unfold cutOne
    rcases itemOf_some bins labels ab right v hlen with ⟨k, I, l, hI, hIv, hl, he⟩ | ⟨hall, he⟩
    · have : (List.range (intervals bins ab).length).filter (hitAt (intervals bins ab) right v) = [k] :=
        filter_range_singleton _ _ k (List.getElem?_eq_some_iff.mp hI).1
          ((hitAt_iff _ right v k).mpr ⟨I, hI, hIv⟩) fun j _ hj => by
            obtain ⟨J, hJ, hJv⟩ := (hitAt_iff _ right v j).mp hj
            exact contains_unique bins hasc ab right v j k J I hJ hI hJv hIv
      simp only [this, hl, he]
      rfl
    · have : (List.range (intervals bins ab).length).filter (hitAt (intervals bins ab) right v) = [] :=
        List.filter_eq_nil_iff.mpr fun k _ hk => by
          obtain ⟨I, hI, hIv⟩ := (hitAt_iff _ right v k).mp hk
          exact nomatch (hall k I hI).symm.trans hIv
      simp only [this, he]
      rfl

theorem edgesOf_eq (MIN MAX : Int) (bins : List Int) (n : Nat) (ab : Bool) :
    edgesOf MIN MAX bins n ab =
      if n + 1 ≠ nEdges bins ab then none
      else some (if ab then MIN :: (bins ++ [MAX]) else bins) := by
  unfold edgesOf nEdges
  cases ab with
  | true =>
    by_cases h : n = bins.length + 1
    · simp [h]
    · simp [h]
  | false => simp

/-- `vcut` restated over the specification's intervals: label-count check, then per element the
label paired with the first interval containing the value -/
theorem vcut_eq {L : Type} (MIN MAX : Int) (xs : List (Option Int)) (bins : List Int) (labels : List L)
    (right ab : Bool) :
    vcut MIN MAX xs bins labels right ab =
      if labels.length + 1 ≠ nEdges bins ab then none
      else some (xs.map (itemOf bins labels ab right)) := by
  unfold vcut
  rw [edgesOf_eq]
  split
  · rfl
  · refine congrArg some (List.map_congr_left fun x _ => ?_)
    cases x with
    | none => rfl
    | some v =>
      simp only [cutItem, itemOf, firstMatch_eq_pick, model_hits MIN MAX bins ab right v]
      cases pick (hits bins ab right v) labels <;> rfl

theorem vcut_eq_some (MIN MAX : Int) (xs : List (Option Int)) (bins : List Int) (labels : List L)
    (right ab : Bool) (out : List (Item L)) (h : vcut MIN MAX xs bins labels right ab = some out) :
    labels.length + 1 = nEdges bins ab ∧ out = xs.map (itemOf bins labels ab right) := by
  rw [vcut_eq] at h
  split at h
  · exact nomatch h
  next hc => exact ⟨Decidable.not_not.mp hc, (Option.some.inj h).symm⟩

end Tv.C14
