import Tv.Spec.C18Spec
/-! C18 — the running totals of the specification: what `Acc.add` does to the month count and the fixed
  part, and a readable sufficient condition for `NoOverflow`. -/
namespace Tv.C18
open Spec

theorem one_le_mult (u : TUnit) : 1 ≤ u.mult := by cases u <;> decide

theorem nanos_eq_mult (u : TUnit) :
    u.nanos = match u.cls with | .sub => u.mult | .sec => u.mult * 1000000000 | .cal => 0 := by
  cases u <;> decide

theorem months_eq_mult (u : TUnit) : u.months = match u.cls with | .cal => u.mult | _ => 0 := by
  cases u <;> decide

theorem eq_add_mul_zero (x v : Int) : x = x + v * 0 :=
  (Int.add_zero x).symm.trans (congrArg _ (Int.mul_zero v).symm)

theorem add_cal (a : Acc) (t : Term) : (a.add t).cal = a.cal + t.value * t.unit.months := by
  rw [Acc.add, months_eq_mult]
  cases t.unit.cls
  · exact eq_add_mul_zero _ _
  · exact eq_add_mul_zero _ _
  · rfl

theorem add_nanos (a : Acc) (t : Term) :
    (a.add t).sec * 1000000000 + (a.add t).sub = a.sec * 1000000000 + a.sub + t.value * t.unit.nanos := by
  rw [Acc.add, nanos_eq_mult]
  cases t.unit.cls
  · exact (Int.add_assoc ..).symm
  · show (a.sec + _) * 1000000000 + a.sub = _ + t.value * (t.unit.mult * 1000000000)
    rw [Int.add_mul, Int.mul_assoc]
    omega
  · exact eq_add_mul_zero _ _

theorem i64Ok_of_natAbs_le {x : Int} (h : (x.natAbs : Int) ≤ 9223372036854775807) : i64Ok x = true := by
  simp only [i64Ok, Bool.and_eq_true, decide_eq_true_eq]
  omega

theorem i32Ok_of_natAbs_le {x : Int} (h : (x.natAbs : Int) ≤ 2147483647) : i32Ok x = true := by
  simp only [i32Ok, Bool.and_eq_true, decide_eq_true_eq]
  omega

theorem unit_nonneg (u : TUnit) : 0 ≤ u.nanos ∧ 0 ≤ u.months := by cases u <;> decide

theorem sum_map_nonneg {α : Type} (f : α → Int) (hf : ∀ x, 0 ≤ f x) (l : List α) :
    0 ≤ (l.map f).sum := by
  induction l with
  | nil => exact Int.le_refl 0
  | cons x l ih =>
    rw [List.map_cons, List.sum_cons]
    exact Int.add_nonneg (hf x) ih

theorem absNanos_nonneg (ts : List Term) : 0 ≤ absNanos ts :=
  sum_map_nonneg (fun t : Term => (t.value.natAbs : Int) * t.unit.nanos)
    (fun t => Int.mul_nonneg (Int.natCast_nonneg _) (unit_nonneg t.unit).1) ts

theorem absMonths_nonneg (ts : List Term) : 0 ≤ absMonths ts :=
  sum_map_nonneg (fun t : Term => (t.value.natAbs : Int) * t.unit.months)
    (fun t => Int.mul_nonneg (Int.natCast_nonneg _) (unit_nonneg t.unit).2) ts

theorem le_mul_of_one_le {a k : Int} (ha : 0 ≤ a) (hk : 1 ≤ k) : a ≤ a * k := by
  simpa using Int.mul_le_mul_of_nonneg_left hk ha

/-- Adding `v * k` to a total `x` that is counted in units of `G`: if the absolute sizes, with
    room `S` to spare, stay within `L`, then so do the term, its product, the new total, and the
    new total with the same room. -/
theorem scaled_add_le {x v k G S L : Int} (hk : 1 ≤ k) (hG : 1 ≤ G) (hS : 0 ≤ S)
    (h : (x.natAbs : Int) * G + v.natAbs * (k * G) + S ≤ L) :
    (v.natAbs : Int) ≤ L ∧ ((v * k).natAbs : Int) ≤ L ∧ ((x + v * k).natAbs : Int) ≤ L ∧
      ((x + v * k).natAbs : Int) * G + S ≤ L := by
  have hw : (v.natAbs : Int) * k = (v * k).natAbs := by
    rw [Int.natAbs_mul, Int.natCast_mul, Int.natAbs_of_nonneg (a := k) (by omega)]
  have hv : (v.natAbs : Int) ≤ (v * k).natAbs := by
    rw [← hw]
    exact le_mul_of_one_le (Int.natCast_nonneg _) hk
  have hx : 0 ≤ (x.natAbs : Int) * G := Int.mul_nonneg (Int.natCast_nonneg _) (by omega)
  have hwG := le_mul_of_one_le (Int.natCast_nonneg (v * k).natAbs) hG
  have hs := le_mul_of_one_le (Int.natCast_nonneg (x + v * k).natAbs) hG
  have htri : ((x + v * k).natAbs : Int) * G ≤ x.natAbs * G + (v * k).natAbs * G := by
    rw [← Int.add_mul]
    exact Int.mul_le_mul_of_nonneg_right (by exact_mod_cast Int.natAbs_add_le x (v * k)) (by omega)
  rw [← Int.mul_assoc, hw] at h
  omega

/-- one term: it fits, and the size budget carries over to the updated totals -/
theorem fits_small (a : Acc) (t : Term) (B M : Int) (hB : 0 ≤ B) (hM : 0 ≤ M)
    (h1 : (a.sub.natAbs : Int) + a.sec.natAbs * 1000000000 + t.value.natAbs * t.unit.nanos + B
      ≤ 9223372036854775807)
    (h2 : (a.cal.natAbs : Int) + t.value.natAbs * t.unit.months + M ≤ 2147483647) :
    t.fits a = true ∧
    ((a.add t).sub.natAbs : Int) + (a.add t).sec.natAbs * 1000000000 + B ≤ 9223372036854775807 ∧
    ((a.add t).cal.natAbs : Int) + M ≤ 2147483647 := by
  unfold Term.fits Acc.add
  rw [nanos_eq_mult] at h1
  rw [months_eq_mult] at h2
  have hk := one_le_mult t.unit
  generalize t.value = v at h1 h2 ⊢
  generalize t.unit.mult = k at h1 h2 hk ⊢
  generalize t.unit.cls = c at h1 h2 ⊢
  cases c <;> dsimp only at h1 h2 ⊢
  · rw [Int.mul_zero, Int.add_zero] at h2
    obtain ⟨hv, hvk, hs, hr⟩ := scaled_add_le (x := a.sub) (v := v) (G := 1)
      (S := a.sec.natAbs * 1000000000 + B) (L := 9223372036854775807) hk (Int.le_refl 1)
      (Int.add_nonneg (Int.mul_nonneg (Int.natCast_nonneg _) (by decide)) hB)
      (by rw [Int.mul_one, Int.mul_one, ← Int.add_assoc, Int.add_right_comm (a.sub.natAbs : Int)]; exact h1)
    rw [Int.mul_one, ← Int.add_assoc] at hr
    exact ⟨by simp only [i64Ok_of_natAbs_le, hv, hvk, hs, Bool.and_self], hr, h2⟩
  · rw [Int.mul_zero, Int.add_zero] at h2
    obtain ⟨hv, hvk, hs, hr⟩ := scaled_add_le (x := a.sec) (v := v) (G := 1000000000)
      (S := a.sub.natAbs + B) (L := 9223372036854775807) hk (by decide)
      (Int.add_nonneg (Int.natCast_nonneg _) hB)
      (by rw [← Int.add_assoc, Int.add_right_comm _ _ (a.sub.natAbs : Int), Int.add_comm _ (a.sub.natAbs : Int)]
          exact h1)
    rw [← Int.add_assoc, Int.add_comm _ (a.sub.natAbs : Int)] at hr
    exact ⟨by simp only [i64Ok_of_natAbs_le, hv, hvk, hs, Bool.and_self], hr, h2⟩
  · rw [Int.mul_zero, Int.add_zero] at h1
    obtain ⟨hv, hvk, hs, hr⟩ := scaled_add_le (x := a.cal) (v := v) (G := 1)
      (S := M) (L := 2147483647) hk (Int.le_refl 1) hM (by rw [Int.mul_one, Int.mul_one]; exact h2)
    rw [Int.mul_one] at hr
    exact ⟨by simp only [i32Ok_of_natAbs_le, i64Ok_of_natAbs_le (Int.le_trans hv (by decide)), hv, hvk, hs,
      Bool.and_self], h1, hr⟩

theorem noOverflowFrom_of_small (ts : List Term) :
    ∀ a : Acc, (a.sub.natAbs : Int) + a.sec.natAbs * 1000000000 + absNanos ts ≤ 9223372036854775807 →
      (a.cal.natAbs : Int) + absMonths ts ≤ 2147483647 → noOverflowFrom a ts = true := by
  induction ts with
  | nil =>
    intro a h1 _
    simp only [absNanos, List.map_nil, List.sum_nil, Int.add_zero] at h1
    simp only [noOverflowFrom, Acc.final, Bool.and_eq_true, decide_eq_true_eq]
    omega
  | cons t ts ih =>
    intro a h1 h2
    have hN : absNanos (t :: ts) = (t.value.natAbs : Int) * t.unit.nanos + absNanos ts := rfl
    have hM : absMonths (t :: ts) = (t.value.natAbs : Int) * t.unit.months + absMonths ts := rfl
    rw [hN, ← Int.add_assoc] at h1
    rw [hM, ← Int.add_assoc] at h2
    obtain ⟨hf, hs, hc⟩ := fits_small a t (absNanos ts) (absMonths ts) (absNanos_nonneg ts)
      (absMonths_nonneg ts) h1 h2
    simp only [noOverflowFrom, Bool.and_eq_true]
    exact ⟨hf, ih _ hs hc⟩

theorem noOverflow_of_small (ts : List Term) (h1 : absNanos ts ≤ 9223372036854775807)
    (h2 : absMonths ts ≤ 2147483647) : NoOverflow ts :=
  noOverflowFrom_of_small ts {} (by simpa using h1) (by simpa using h2)

end Tv.C18
