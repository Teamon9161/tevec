import Tv.Lemmas.C12Order
/-!
The counting loop of `vpercentile_of` ends with the spec's counts `#<`, `#=` and the number of valid
elements; the three kinds are then arithmetic on those.
-/
namespace Tv.C12
open Tv

theorem pct_fold (s : Rat) (xs : List Elem) (a b c : Nat) :
    xs.foldl (pctStep s) (a, b, c) =
      (a + Spec.cntLt xs s, b + Spec.cntEq xs s, c + (valid xs).length) := by
  induction xs generalizing a b c with
  | nil => rfl
  | cons x xs ih =>
    cases x with
    | none => exact ih a b c
    | some v =>
      simp only [List.foldl_cons, pctStep, Spec.cntLt, Spec.cntEq, valid_cons_some, List.countP_cons,
        List.length_cons, decide_eq_true_eq] at ih ⊢
      by_cases h1 : v < s
      · rw [if_pos h1, ih, if_pos h1, if_neg (ne_of_lt h1)]
        simp only [Nat.add_zero, Nat.add_assoc, Nat.add_comm 1]
      · rw [if_neg h1, if_neg h1]
        by_cases h2 : v = s
        · rw [if_pos h2, ih, if_pos h2]
          simp only [Nat.add_zero, Nat.add_assoc, Nat.add_comm 1]
        · rw [if_neg h2, ih, if_neg h2]
          simp only [Nat.add_zero, Nat.add_assoc, Nat.add_comm 1]

theorem cntLe_eq (xs : List Elem) (s : Rat) : Spec.cntLe xs s = Spec.cntLt xs s + Spec.cntEq xs s := by
  unfold Spec.cntLe Spec.cntLt Spec.cntEq
  induction valid xs with
  | nil => rfl
  | cons v l ih =>
    simp only [List.countP_cons, ih, decide_eq_true_eq]
    rcases lt_trichotomy v s with h | h | h
    · rw [if_pos h.le, if_pos h, if_neg (ne_of_lt h)]; omega
    · rw [if_pos h.le, if_neg (h ▸ lt_irrefl v), if_pos h]; omega
    · rw [if_neg (not_le.mpr h), if_neg (not_lt.mpr h.le), if_neg (ne_of_gt h)]; omega

theorem vpercentileOf_rank (xs : List Elem) (s : Rat) :
    vpercentileOf xs (some s) .rank = Spec.percentileOf xs (some s) .rank := by
  simp only [vpercentileOf, Spec.percentileOf, pct_fold, Nat.zero_add]
  by_cases hn : (valid xs).length = 0
  · simp only [hn, if_true]
  · simp only [hn, if_false, cntLe_eq]
    have hn' : ((valid xs).length : Rat) ≠ 0 := by exact_mod_cast hn
    generalize Spec.cntLt xs s = lt
    generalize Spec.cntEq xs s = eq
    by_cases h1 : eq > 1
    · -- several matches: the mean of the ranks `lt + 1 … lt + eq`
      have hgt : lt + eq > lt := by omega
      have e : lt + 1 + (lt + 1 + (eq - 1)) = lt + (lt + eq) + 1 := by omega
      simp only [h1, if_true, hgt, Out.div, hn', if_false, e, mul_one_div, div_div]
    · -- at most one match: `(2 lt + 2 eq) / (2 n)`
      have e : lt + (lt + eq) + (if lt + eq > lt then 1 else 0) = 2 * (lt + eq) := by
        split <;> omega
      simp only [h1, if_false, Out.div, hn', e, Nat.cast_mul, Nat.cast_ofNat,
        mul_div_mul_left _ _ (two_ne_zero (α := Rat))]

theorem vpercentileOf_weak (xs : List Elem) (s : Rat) :
    vpercentileOf xs (some s) .weak = Spec.percentileOf xs (some s) .weak := by
  simp only [vpercentileOf, Spec.percentileOf, pct_fold, Nat.zero_add]
  by_cases hn : (valid xs).length = 0
  · simp [hn]
  · have hn' : ((valid xs).length : Rat) ≠ 0 := by exact_mod_cast hn
    simp [hn, cntLe_eq, Out.div, hn']

theorem vpercentileOf_strict (xs : List Elem) (s : Rat) :
    vpercentileOf xs (some s) .strict = Spec.percentileOf xs (some s) .strict := by
  simp only [vpercentileOf, Spec.percentileOf, pct_fold, Nat.zero_add]
  by_cases hn : (valid xs).length = 0
  · simp [hn]
  · have hn' : ((valid xs).length : Rat) ≠ 0 := by exact_mod_cast hn
    simp [hn, Out.div, hn']

end Tv.C12
