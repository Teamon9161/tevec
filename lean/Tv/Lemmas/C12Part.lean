import Tv.Lemmas.C12Order
/-!
`vpartition` and `varg_partition` against `Spec.partition`. A selection `(h, m, t)` at `k` fixes the
first `k + 1` entries of the sorted form up to order (`select_sorted`, `Std.Ok.select_keys`); below
`k + 1` valid elements both kernels pad (`padTake`).
-/
namespace Tv.C12
open Tv

/-- if `h ++ m :: t` rearranges `xs` with `h ≤ m ≤ t`, then sorting the two blocks gives *the* sorted
form of `xs` -/
theorem select_sorted (rev : Bool) {xs h t : List Elem} {m : Elem}
    (hp : (h ++ m :: t).Perm xs) (hh : ∀ a ∈ h, leE rev a m = true) (ht : ∀ b ∈ t, leE rev m b = true) :
    isort (leE rev) h ++ m :: isort (leE rev) t = sortedE rev xs := by
  apply sorted_eq_sortedE rev
  · exact ((isort_perm _ h).append (List.Perm.cons m (isort_perm _ t))).trans hp
  · rw [List.pairwise_append]
    refine ⟨isort_pairwise _ (leE_total rev) (leE_trans rev) h, ?_, ?_⟩
    · refine List.Pairwise.cons ?_ (isort_pairwise _ (leE_total rev) (leE_trans rev) t)
      intro b hb
      exact ht b ((isort_perm _ t).mem_iff.mp hb)
    · intro a ha b hb
      have ha' := hh a ((isort_perm _ h).mem_iff.mp ha)
      rcases List.mem_cons.mp hb with rfl | hb
      · exact ha'
      · exact leE_trans rev _ _ _ ha' (ht b ((isort_perm _ t).mem_iff.mp hb))

theorem select_nth (rev : Bool) {xs h t : List Elem} {m : Elem} {j : Nat}
    (hp : (h ++ m :: t).Perm xs) (hj : h.length = j)
    (hh : ∀ a ∈ h, leE rev a m = true) (ht : ∀ b ∈ t, leE rev m b = true) :
    (sortedE rev xs)[j]? = some m := by
  rw [← select_sorted rev hp hh ht]
  have hl : (isort (leE rev) h).length = j := by rw [(isort_perm _ h).length_eq, hj]
  rw [List.getElem?_append_right (by omega), hl]
  simp

theorem select_head (rev : Bool) {xs h t : List Elem} {m : Elem} {j : Nat}
    (hp : (h ++ m :: t).Perm xs) (hj : h.length = j)
    (hh : ∀ a ∈ h, leE rev a m = true) (ht : ∀ b ∈ t, leE rev m b = true) :
    h.Perm ((sortedE rev xs).take j) := by
  rw [← select_sorted rev hp hh ht]
  have hl : (isort (leE rev) h).length = j := by rw [(isort_perm _ h).length_eq, hj]
  rw [List.take_append, hl, List.take_of_length_le (Nat.le_of_eq hl)]
  simp
  exact (isort_perm _ h).symm

theorem sortedE_take_le (rev : Bool) (xs : List Elem) {j : Nat} (hj : j ≤ (valid xs).length) :
    (sortedE rev xs).take j = ((Spec.sortedValid xs rev).take j).map some := by
  unfold sortedE
  rw [List.take_append_of_le_length (by simpa using hj), List.map_take]

/-- a selection at `k` under a comparator `le` that orders by keys `f` (`vpartition`: the elements
themselves; `varg_partition`: indices, by the elements they point at): the keys of the first `k + 1`
selected entries are, up to order, the first `k + 1` entries of the sorted form of all keys, and sorting
the entries by `le` puts their keys in that order -/
theorem Std.Ok.select_keys {S : Std} (hS : S.Ok) {α : Type} (rev : Bool) (le : α → α → Bool) (f : α → Elem)
    (hle : ∀ a b, le a b = leE rev (f a) (f b)) (l : List α) {k : Nat} (hk : k < l.length) :
    ∃ h m t, S.select le l k = some (h, m, t) ∧ (h ++ m :: t).Perm l ∧ (h ++ [m]).length = k + 1 ∧
      ((h ++ [m]).map f).Perm ((sortedE rev (l.map f)).take (k + 1)) ∧
      (S.sort le (h ++ [m])).map f = (sortedE rev (l.map f)).take (k + 1) := by
  have tot : ∀ a b, le a b = true ∨ le b a = true := fun a b => by
    rw [hle, hle]; exact leE_total rev _ _
  have tr : ∀ a b c, le a b = true → le b c = true → le a c = true := fun a b c => by
    rw [hle, hle, hle]; exact leE_trans rev _ _ _
  obtain ⟨h, m, t, hsel, hp, hj, hh, ht⟩ := hS.select_spec le tot tr l k hk
  have hp' : (h.map f ++ f m :: t.map f).Perm (l.map f) := by
    have := hp.map f
    rwa [List.map_append, List.map_cons] at this
  have hh' : ∀ a ∈ h.map f, leE rev a (f m) = true := List.forall_mem_map.mpr fun a ha => hle a m ▸ hh a ha
  have ht' : ∀ b ∈ t.map f, leE rev (f m) b = true := List.forall_mem_map.mpr fun b hb => hle m b ▸ ht b hb
  have hperm : ((h ++ [m]).map f).Perm ((sortedE rev (l.map f)).take (k + 1)) := by
    rw [List.take_add_one, select_nth rev hp' (by rw [List.length_map, hj]) hh' ht', List.map_append]
    exact (select_head rev hp' (by rw [List.length_map, hj]) hh' ht').append_right _
  refine ⟨h, m, t, hsel, hp, by rw [List.length_append, hj, List.length_singleton], hperm, ?_⟩
  refine sorted_unique rev (((hS.sort_perm _ _).map f).trans hperm) ?_
    (sortedE_pairwise rev _).take
  rw [List.pairwise_map]
  exact (hS.sort_sorted le tot tr _).imp fun hab => hle _ _ ▸ hab

theorem padTake_of_le {α : Type} (l : List α) (pad : α) (k1 : Nat) (h : l.length ≤ k1) :
    padTake l pad k1 = l ++ List.replicate (k1 - l.length) pad := by
  unfold padTake
  apply List.take_of_length_le
  rw [List.length_append, List.length_replicate]; omega

theorem padTake_length {α : Type} (l : List α) (pad : α) (k1 : Nat) : (padTake l pad k1).length = k1 := by
  unfold padTake
  rw [List.length_take, List.length_append, List.length_replicate]; omega

theorem padTake_map_ofNat (idx : List Nat) (k1 : Nat) (h : idx.length ≤ k1) :
    padTake (idx.map Int.ofNat) (-1) k1 = idx.map Int.ofNat ++ List.replicate (k1 - idx.length) (-1) := by
  rw [padTake_of_le _ _ _ (by rwa [List.length_map]), List.length_map]

theorem padTake_block {α : Type} (A : List α) (pad : α) (p k1 : Nat) (h : A.length ≤ k1) :
    padTake (A ++ List.replicate p pad) pad k1 = A ++ List.replicate (k1 - A.length) pad := by
  unfold padTake
  rw [List.append_assoc, List.replicate_append_replicate, List.take_append, List.take_of_length_le h,
    List.take_replicate]
  congr 2
  rw [List.length_append, List.length_replicate, Nat.min_def]; split <;> omega

theorem spec_partition_eq (xs : List Elem) (k : Nat) (rev : Bool) :
    Spec.partition xs k rev =
      ((Spec.sortedValid xs rev).take (k + 1)).map some ++
        List.replicate (k + 1 - min (k + 1) (valid xs).length) none := by
  simp only [Spec.partition, List.length_map, List.length_take, sortedValid_length]

theorem spec_partition_length (xs : List Elem) (k : Nat) (rev : Bool) :
    (Spec.partition xs k rev).length = k + 1 := by
  rw [spec_partition_eq, List.length_append, List.length_map, List.length_take, sortedValid_length,
    List.length_replicate]
  omega

theorem spec_partition_small (xs : List Elem) (k : Nat) (rev : Bool) (h : (valid xs).length ≤ k + 1) :
    Spec.partition xs k rev =
      (Spec.sortedValid xs rev).map some ++ List.replicate (k + 1 - (valid xs).length) none := by
  rw [spec_partition_eq, List.take_of_length_le (by simpa using h), Nat.min_eq_right h]

theorem spec_partition_large (xs : List Elem) (k : Nat) (rev : Bool) (h : k + 1 ≤ (valid xs).length) :
    Spec.partition xs k rev = (sortedE rev xs).take (k + 1) := by
  rw [spec_partition_eq, sortedE_take_le rev xs h, Nat.min_eq_left h]; simp

theorem spec_partition_pairwise (xs : List Elem) (k : Nat) (rev : Bool) :
    (Spec.partition xs k rev).Pairwise (fun a b => leE rev a b = true) := by
  rcases Nat.le_total (valid xs).length (k + 1) with h | h
  · rw [spec_partition_small xs k rev h]
    exact pairwise_some_nulls rev (sortedValid_pairwise xs rev) _
  · rw [spec_partition_large xs k rev h]
    exact (sortedE_pairwise rev xs).take

theorem filter_isSome_eq (xs : List Elem) : xs.filter (·.isSome) = (valid xs).map some := by
  induction xs with
  | nil => simp [valid]
  | cons x xs ih =>
    cases x with
    | none => simpa [valid] using ih
    | some v => simpa [valid] using ih

theorem vpartition_spec {S : Std} (hS : S.Ok) (xs : List Elem) (k : Nat) (sort rev : Bool) :
    ∃ r, vpartition S xs k sort rev = some r ∧ r.Perm (Spec.partition xs k rev) ∧
      (sort = true → r = Spec.partition xs k rev) := by
  unfold vpartition
  simp only []
  by_cases h1 : (valid xs).length = k + 1 ∧ (!sort) = true
  · rw [if_pos h1]
    refine ⟨_, rfl, ?_, ?_⟩
    · rw [spec_partition_small xs k rev (Nat.le_of_eq h1.1), filter_isSome_eq, h1.1]
      rw [Nat.sub_self, List.replicate_zero, List.append_nil]
      exact (sortedValid_perm xs rev).symm.map some
    · intro hs; rw [hs] at h1; exact Bool.noConfusion h1.2
  · rw [if_neg h1]
    by_cases h2 : (valid xs).length ≤ k + 1
    · rw [if_pos h2]
      cases sort with
      | false =>
        simp only [Bool.not_false, if_true]
        refine ⟨_, rfl, ?_, fun h => Bool.noConfusion h⟩
        rw [spec_partition_small xs k rev h2, filter_isSome_eq,
          padTake_of_le _ _ _ (by rwa [List.length_map]), List.length_map]
        exact List.Perm.append_right _ ((sortedValid_perm xs rev).symm.map some)
      | true =>
        simp only [Bool.not_true, Bool.false_eq_true, if_false]
        refine ⟨_, rfl, ?_⟩
        have : padTake (S.sort (leE rev) xs) none (k + 1) = Spec.partition xs k rev := by
          rw [hS.sort_eq, spec_partition_small xs k rev h2]
          unfold sortedE
          rw [padTake_block _ _ _ _ (by rwa [List.length_map, sortedValid_length]), List.length_map,
            sortedValid_length]
        rw [this]
        exact ⟨List.Perm.refl _, fun _ => rfl⟩
    · rw [if_neg h2]
      have hk : k < xs.length := by have := valid_length_le xs; omega
      obtain ⟨h, m, t, hsel, _, _, hperm, hsort⟩ :=
        hS.select_keys rev (leE rev) id (fun _ _ => rfl) xs hk
      rw [List.map_id, List.map_id, ← spec_partition_large xs k rev (by omega)] at hperm hsort
      rw [hsel]
      cases sort with
      | false => exact ⟨_, rfl, hperm, nofun⟩
      | true => exact ⟨_, rfl, hsort ▸ List.Perm.refl _, fun _ => hsort⟩

/-- the element an index points at -/
def key (xs : List Elem) (i : Nat) : Elem := xs.getD i none

theorem map_key_range (xs : List Elem) : (List.range xs.length).map (key xs) = xs := by
  apply List.ext_getElem
  · simp
  · intro i h1 h2
    simp [key, List.getElem?_eq_getElem h2]

theorem validIdx_map_key (xs : List Elem) : (validIdx xs).map (key xs) = (valid xs).map some := by
  unfold validIdx
  rw [← filter_isSome_eq]
  conv => rhs; rw [← map_key_range xs]
  rw [List.filter_map]
  rfl

theorem validIdx_length (xs : List Elem) : (validIdx xs).length = (valid xs).length := by
  have := congrArg List.length (validIdx_map_key xs)
  simpa using this

/-- an arg-partition result in the form the property talks about: indices `idx` (distinct, in range,
pointing at non-null elements) followed by `-1` padding up to `k+1` entries -/
structure ArgOk (xs : List Elem) (k : Nat) (r : List Int) (idx : List Nat) : Prop where
  shape : r = idx.map Int.ofNat ++ List.replicate (k + 1 - idx.length) (-1)
  len : idx.length ≤ k + 1
  nodup : idx.Nodup
  valid : ∀ i ∈ idx, i < xs.length ∧ ∃ v, xs[i]? = some (some v)

/-- the values an arg-partition result refers to (`none` for `-1`) -/
def argValues (xs : List Elem) (k : Nat) (idx : List Nat) : List Elem :=
  idx.map (key xs) ++ List.replicate (k + 1 - idx.length) none

theorem key_some_of_mem {xs : List Elem} {idx : List Nat} {vs : List Rat}
    (h : idx.map (key xs) = vs.map some) : ∀ i ∈ idx, ∃ v, key xs i = some v := by
  intro i hi
  have : key xs i ∈ vs.map some := h ▸ List.mem_map_of_mem hi
  obtain ⟨v, _, hv⟩ := List.mem_map.mp this
  exact ⟨v, hv.symm⟩

theorem valid_of_key {xs : List Elem} {i : Nat} (hi : i < xs.length) {v : Rat} (h : key xs i = some v) :
    i < xs.length ∧ ∃ v, xs[i]? = some (some v) := by
  refine ⟨hi, v, ?_⟩
  simp only [key, List.getD_eq_getElem?_getD, List.getElem?_eq_getElem hi, Option.getD_some] at h
  simp [List.getElem?_eq_getElem hi, h]

theorem pairwise_leIdx_map {rev : Bool} {xs : List Elem} {l : List Nat}
    (h : l.Pairwise (fun a b => leIdx rev xs a b = true)) :
    (l.map (key xs)).Pairwise (fun a b => leE rev a b = true) := by
  rw [List.pairwise_map]
  exact h.imp (fun hab => hab)

theorem argValues_full {xs : List Elem} {k : Nat} {idx : List Nat} (hl : idx.length = k + 1) :
    argValues xs k idx = idx.map (key xs) := by
  unfold argValues
  rw [hl, Nat.sub_self, List.replicate_zero, List.append_nil]

/-- the small case of `varg_partition`: an index list whose values are a rearrangement `L` of all
valid elements, padded to `k + 1` -/
theorem argOk_small {xs : List Elem} {k : Nat} {rev : Bool} {idx : List Nat} {L : List Rat}
    (hmap : idx.map (key xs) = L.map some) (hL : L.Perm (Spec.sortedValid xs rev)) (hnd : idx.Nodup)
    (hr : ∀ i ∈ idx, i < xs.length) (h2 : (valid xs).length ≤ k + 1) :
    ArgOk xs k (padTake (idx.map Int.ofNat) (-1) (k + 1)) idx ∧
      (argValues xs k idx).Perm (Spec.partition xs k rev) ∧
      (L = Spec.sortedValid xs rev → argValues xs k idx = Spec.partition xs k rev) := by
  have hlen : idx.length = (valid xs).length := by
    have := congrArg List.length hmap
    rwa [List.length_map, List.length_map, hL.length_eq, sortedValid_length] at this
  refine ⟨⟨padTake_map_ofNat _ _ (by rwa [hlen]), by rwa [hlen], hnd, fun i hi => ?_⟩, ?_, fun h => ?_⟩
  · obtain ⟨v, hv⟩ := key_some_of_mem hmap i hi
    exact valid_of_key (hr i hi) hv
  · unfold argValues
    rw [hmap, hlen, spec_partition_small xs k rev h2]
    exact List.Perm.append_right _ (hL.map some)
  · unfold argValues
    rw [hmap, hlen, spec_partition_small xs k rev h2, h]

theorem vargPartition_spec {S : Std} (hS : S.Ok) (xs : List Elem) (k : Nat) (sort rev : Bool) :
    ∃ r idx, vargPartition S xs k sort rev = some r ∧ ArgOk xs k r idx ∧
      (argValues xs k idx).Perm (Spec.partition xs k rev) ∧
      (sort = true → argValues xs k idx = Spec.partition xs k rev) := by
  unfold vargPartition
  simp only []
  by_cases h2 : (valid xs).length ≤ k + 1
  · rw [if_pos h2]
    cases sort with
    | false =>
      obtain ⟨hok, hpv, _⟩ := argOk_small (rev := rev) (validIdx_map_key xs)
        (sortedValid_perm xs rev).symm ((List.nodup_range).filter _)
        (fun i hi => List.mem_range.mp (List.mem_filter.mp hi).1) h2
      exact ⟨_, validIdx xs, rfl, hok, hpv, fun h => Bool.noConfusion h⟩
    | true =>
      have hperm := hS.sort_perm (leIdx rev xs) (List.range xs.length)
      have hmap : (S.sort (leIdx rev xs) (List.range xs.length)).map (key xs) = sortedE rev xs := by
        apply sorted_eq_sortedE rev
        · have := hperm.map (key xs)
          rwa [map_key_range] at this
        · exact pairwise_leIdx_map
            (hS.sort_sorted (leIdx rev xs) (leIdx_total rev xs) (leIdx_trans rev xs) _)
      have htake : ((S.sort (leIdx rev xs) (List.range xs.length)).take (valid xs).length).map (key xs)
          = (Spec.sortedValid xs rev).map some := by
        rw [List.map_take, hmap, sortedE_take_le rev xs (Nat.le_refl _),
          List.take_of_length_le (Nat.le_of_eq (sortedValid_length xs rev))]
      obtain ⟨hok, hpv, heq⟩ := argOk_small htake (List.Perm.refl _)
        ((hperm.nodup_iff.mpr List.nodup_range).sublist (List.take_sublist _ _))
        (fun i hi => List.mem_range.mp (hperm.mem_iff.mp (List.mem_of_mem_take hi))) h2
      exact ⟨_, _, rfl, hok, hpv, fun _ => heq rfl⟩
  · rw [if_neg h2]
    have hk : k < (List.range xs.length).length := by
      have := valid_length_le xs; simp; omega
    obtain ⟨h, m, t, hsel, hp, hlen, hvals, hsort⟩ :=
      hS.select_keys rev (leIdx rev xs) (key xs) (fun _ _ => rfl) (List.range xs.length) hk
    rw [map_key_range, ← spec_partition_large xs k rev (by omega)] at hvals hsort
    rw [hsel]
    simp only []
    have hsplit : h ++ m :: t = (h ++ [m]) ++ t := by rw [List.append_assoc]; rfl
    have hnd : (h ++ [m]).Nodup := by
      have h1 : (h ++ m :: t).Nodup := hp.nodup_iff.mpr List.nodup_range
      rw [hsplit] at h1
      exact (List.nodup_append.mp h1).1
    have hmem : ∀ i ∈ h ++ [m], i < xs.length := fun i hi =>
      List.mem_range.mp (hp.mem_iff.mp (hsplit ▸ List.mem_append_left _ hi))
    have hsv : Spec.partition xs k rev = ((Spec.sortedValid xs rev).take (k + 1)).map some := by
      rw [spec_partition_eq, Nat.min_eq_left (by omega), Nat.sub_self, List.replicate_zero,
        List.append_nil]
    -- generic conclusion for any rearrangement `idx` of `h ++ [m]`
    have concl : ∀ idx : List Nat, idx.Perm (h ++ [m]) →
        ArgOk xs k (idx.map Int.ofNat) idx ∧ (argValues xs k idx).Perm (Spec.partition xs k rev) := by
      intro idx hidx
      have hl : idx.length = k + 1 := by rw [hidx.length_eq, hlen]
      have hv : (idx.map (key xs)).Perm (Spec.partition xs k rev) := (hidx.map _).trans hvals
      refine ⟨⟨by rw [hl, Nat.sub_self, List.replicate_zero, List.append_nil], Nat.le_of_eq hl,
        hidx.nodup_iff.mpr hnd, ?_⟩, ?_⟩
      · intro i hi
        have hi' := hmem i (hidx.mem_iff.mp hi)
        have : key xs i ∈ Spec.partition xs k rev := hv.mem_iff.mp (List.mem_map_of_mem hi)
        rw [hsv] at this
        obtain ⟨v, _, hv⟩ := List.mem_map.mp this
        exact valid_of_key hi' hv.symm
      · rwa [argValues_full hl]
    cases sort with
    | false =>
      obtain ⟨hok, hpv⟩ := concl (h ++ [m]) (List.Perm.refl _)
      exact ⟨_, h ++ [m], rfl, hok, hpv, fun h => Bool.noConfusion h⟩
    | true =>
      simp only [if_true]
      have hsp := hS.sort_perm (leIdx rev xs) (h ++ [m])
      obtain ⟨hok, hpv⟩ := concl _ hsp
      refine ⟨_, S.sort (leIdx rev xs) (h ++ [m]), rfl, hok, hpv, fun _ => ?_⟩
      have hl : (S.sort (leIdx rev xs) (h ++ [m])).length = k + 1 := by rw [hsp.length_eq, hlen]
      rw [argValues_full hl]
      exact hsort

end Tv.C12
