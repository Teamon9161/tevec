import Tv.Model.C03Norm
import Tv.Lemmas.C03Sem
/-!
  `ts_vminmaxnorm`: the two lazily re-searched caches (with sentinel initial values) always
  describe the extreme of the positions seen so far inside the window.
-/
namespace Tv.C03
open Tv

/-- `cmp x bound` ("x is at least as extreme as the cached bound") for an order `R a b`
("b is at least as extreme as a"); the sentinel `none` is beaten by everything -/
structure SentCmp (cmp : Rat → Option Rat → Bool) (R : Rat → Rat → Prop) : Prop where
  sentinel : ∀ x, cmp x none = true
  real : ∀ x m, cmp x (some m) = true ↔ R m x
  refl : ∀ a, R a a
  trans : ∀ {a b c}, R a b → R b c → R a c
  total : ∀ a b, R a b ∨ R b a

theorem geS_ok : SentCmp geS (fun a b => a ≤ b) where
  sentinel := by intro x; rfl
  real := by intro x m; simp [geS]
  refl := fun a => le_refl a
  trans := fun h1 h2 => le_trans h1 h2
  total := fun a b => le_total a b

theorem leS_ok : SentCmp leS (fun a b => b ≤ a) where
  sentinel := by intro x; rfl
  real := by intro x m; simp [leS]
  refl := fun a => le_refl a
  trans := fun h1 h2 => le_trans h2 h1
  total := fun a b => le_total b a

/-- the cache `st` describes the `R`-extreme of the non-null positions of `lo .. hi` (half open) -/
structure SentOK (R : Rat → Rat → Prop) (g : Nat → Option Rat) (lo hi : Nat) (st : SentSt) : Prop where
  bound : ∀ j, lo ≤ j → j < hi → ∀ x, g j = some x → ∃ m, st.1 = some m ∧ R x m
  attained : ∀ m, st.1 = some m → lo ≤ st.2 ∧ st.2 < hi ∧ g st.2 = some m

variable {cmp : Rat → Option Rat → Bool} {R : Rat → Rat → Prop}

theorem sentOK_empty (g : Nat → Option Rat) (a k : Nat) : SentOK R g a a (none, k) :=
  ⟨by intro j h1 h2; omega, by intro m h; cases h⟩

theorem sentOK_keep (g : Nat → Option Rat) (lo hi : Nat) (st : SentSt) (h : SentOK R g lo hi st)
    (hb : ∀ x, g hi = some x → ∃ m, st.1 = some m ∧ R x m) : SentOK R g lo (hi+1) st := by
  refine ⟨fun j h1 h2 x hx => ?_, fun m hm => ?_⟩
  · by_cases hj : j = hi
    · subst hj; exact hb x hx
    · exact h.bound j h1 (by omega) x hx
  · obtain ⟨a, b, c⟩ := h.attained m hm
    exact ⟨a, by omega, c⟩

theorem sUpd_extends (hc : SentCmp cmp R) (g : Nat → Option Rat) (lo hi : Nat) (st : SentSt)
    (hlo : lo ≤ hi) (h : SentOK R g lo hi st) :
    SentOK R g lo (hi+1) (sUpd cmp st (g hi) hi) := by
  unfold sUpd
  cases hv : g hi with
  | none => exact sentOK_keep g lo hi st h fun x hx => by rw [hv] at hx; cases hx
  | some x =>
    simp only
    by_cases hcx : cmp x st.1 = true
    · simp only [hcx, if_true]
      refine ⟨fun j h1 h2 y hy => ⟨x, rfl, ?_⟩, fun m hm => ?_⟩
      · by_cases hj : j = hi
        · subst hj; rw [hv] at hy; cases hy; exact hc.refl _
        · obtain ⟨m, hm1, hm2⟩ := h.bound j h1 (by omega) y hy
          rw [hm1] at hcx
          exact hc.trans hm2 ((hc.real x m).mp hcx)
      · cases hm
        exact ⟨hlo, by omega, hv⟩
    · simp only [hcx, Bool.false_eq_true, if_false]
      obtain ⟨m, hm⟩ : ∃ m, st.1 = some m := by
        cases hs : st.1 with
        | none => rw [hs, hc.sentinel] at hcx; exact absurd rfl hcx
        | some m => exact ⟨m, rfl⟩
      refine sentOK_keep g lo hi st h fun y hy => ⟨m, hm, ?_⟩
      obtain rfl : x = y := Option.some.inj (hv.symm.trans hy)
      rw [hm] at hcx
      exact (hc.total m x).resolve_left fun h' => hcx ((hc.real x m).mpr h')

theorem foldl_sUpd (hc : SentCmp cmp R) (g : Nat → Option Rat) (lo : Nat) :
    ∀ (n hi : Nat) (st : SentSt), lo ≤ hi → SentOK R g lo hi st →
      SentOK R g lo (hi+n) ((List.range' hi n).foldl (fun st i => sUpd cmp st (g i) i) st) := by
  intro n
  induction n with
  | zero => intro hi st _ h; simpa using h
  | succ n ih =>
    intro hi st hlo h
    rw [List.range'_succ, List.foldl_cons]
    have := ih (hi+1) _ (by omega) (sUpd_extends hc g lo hi st hlo h)
    have e : hi + 1 + n = hi + (n+1) := by omega
    rw [e] at this
    exact this

theorem sRescan_spec (hc : SentCmp cmp R) (g : Nat → Option Rat) (st : SentSt) (s e : Nat)
    (h : s ≤ e) : SentOK R g s e (sRescan cmp g st s e) := by
  unfold sRescan
  have := foldl_sUpd hc g s (e - s) s (none, st.2) (Nat.le_refl _) (sentOK_empty g s st.2)
  have e2 : s + (e - s) = e := by omega
  rw [e2] at this
  exact this

theorem sentOK_drop_head (g : Nat → Option Rat) (lo hi : Nat) (st : SentSt)
    (h : SentOK R g lo hi st) (hk : lo + 1 ≤ st.2) : SentOK R g (lo+1) hi st := by
  refine ⟨?_, ?_⟩
  · intro j h1 h2; exact h.bound j (by omega) h2
  · intro m hm
    obtain ⟨_, b, c⟩ := h.attained m hm
    exact ⟨hk, b, c⟩

/-- the expiry test and lazy re-search at the head of a call -/
theorem sRefresh (hc : SentCmp cmp R) (g : Nat → Option Rat) (lp s i : Nat) (st : SentSt)
    (hs : s = lp ∨ s = lp + 1) (hsi : s ≤ i) (h : SentOK R g lp i st) :
    SentOK R g s i (if st.2 < s then sRescan cmp g st s i else st) := by
  by_cases hx : st.2 < s
  · simp only [hx, if_true]
    exact sRescan_spec hc g st s i hsi
  · simp only [hx, if_false]
    rcases hs with rfl | rfl
    · exact h
    · exact sentOK_drop_head g lp i st h (by omega)

theorem sent_extreme (g : Nat → Option Rat) (lo i : Nat) (st : SentSt) (m : Rat)
    (h : SentOK R g lo (i+1) st) (hm : st.1 = some m) :
    m ∈ Spec.vals (winL g lo i) ∧ ∀ y ∈ Spec.vals (winL g lo i), R y m := by
  obtain ⟨a, b, c⟩ := h.attained m hm
  refine ⟨(mem_vals_winL g lo i m).mpr ⟨st.2, a, by omega, c⟩, fun y hy => ?_⟩
  obtain ⟨j, h1, h2, h3⟩ := (mem_vals_winL g lo i y).mp hy
  obtain ⟨m', hm1, hm2⟩ := h.bound j h1 (by omega) y h3
  rw [hm] at hm1; cases hm1; exact hm2

theorem sent_least (g : Nat → Option Rat) (lo i : Nat) (st : SentSt) (m : Rat)
    (h : SentOK (fun a b => b ≤ a) g lo (i+1) st) (hm : st.1 = some m) :
    Spec.least (Spec.vals (winL g lo i)) = some m :=
  least_char _ m (sent_extreme g lo i st m h hm).1 (sent_extreme g lo i st m h hm).2

theorem sent_greatest (g : Nat → Option Rat) (lo i : Nat) (st : SentSt) (m : Rat)
    (h : SentOK (fun a b => a ≤ b) g lo (i+1) st) (hm : st.1 = some m) :
    Spec.greatest (Spec.vals (winL g lo i)) = some m :=
  greatest_char _ m (sent_extreme g lo i st m h hm).1 (sent_extreme g lo i st m h hm).2

/-- state before call `i` -/
structure MMInv (g : Nat → Option Rat) (W i : Nat) (st : MMSt) : Prop where
  mx : SentOK (fun a b => a ≤ b) g (lo W (i-1)) i st.mx
  mn : SentOK (fun a b => b ≤ a) g (lo W (i-1)) i st.mn
  n : st.n = cnt g (lo W i) i

theorem lo_pred (W i : Nat) : lo W i = lo W (i-1) ∨ lo W i = lo W (i-1) + 1 := by
  unfold lo; omega

/-- the two caches after the expiry match of call `i` -/
def refreshed (g : Nat → Option Rat) (st : MMSt) (start : Option Nat) (e : Nat) : SentSt × SentSt :=
  match start with
  | some s =>
    match decide (st.mx.2 < s), decide (st.mn.2 < s) with
    | true, false => (sRescan geS g st.mx s e, st.mn)
    | false, true => (st.mx, sRescan leS g st.mn s e)
    | true, true => (sRescan geS g st.mx s e, sRescan leS g st.mn s e)
    | false, false => (st.mx, st.mn)
  | none => (st.mx, st.mn)

/-- `mmStep` after the expiry match, on the refreshed caches: the end element, the output, and the
count of the element that leaves -/
def mmEnd (g : Nat → Option Rat) (mp : Nat) (mx mn : SentSt) (n : Nat)
    (start : Option Nat) (e : Nat) (v : Option Rat) : MMSt × Out :=
  let n1 := if v.isSome then n + 1 else n
  let mx := sUpd geS mx v e
  let mn := sUpd leS mn v e
  (⟨mx, mn, match start with
      | some s => if (g s).isSome then n1 - 1 else n1
      | none => n1⟩,
   match v, mx.1, mn.1 with
   | some x, some hi, some lo => if n1 ≥ mp ∧ hi ≠ lo then .val ((x - lo) / (hi - lo)) else .null
   | _, _, _ => .null)

theorem mmStep_eq (g : Nat → Option Rat) (mp : Nat) (st : MMSt) (c : Option Nat × Nat × Option Rat) :
    mmStep g mp st c =
      mmEnd g mp (refreshed g st c.1 c.2.1).1 (refreshed g st c.1 c.2.1).2 st.n c.1 c.2.1 c.2.2 := rfl

theorem refreshed_some (g : Nat → Option Rat) (st : MMSt) (s e : Nat) :
    refreshed g st (some s) e =
      (if st.mx.2 < s then sRescan geS g st.mx s e else st.mx,
       if st.mn.2 < s then sRescan leS g st.mn s e else st.mn) := by
  unfold refreshed
  by_cases h1 : st.mx.2 < s <;> by_cases h2 : st.mn.2 < s <;> simp [h1, h2]

theorem refreshed_ok (g : Nat → Option Rat) (W i : Nat) (st : MMSt) (h : MMInv g W i st) :
    SentOK (fun a b => a ≤ b) g (lo W i) i (refreshed g st (startAt W i) i).1 ∧
    SentOK (fun a b => b ≤ a) g (lo W i) i (refreshed g st (startAt W i) i).2 := by
  unfold startAt
  by_cases hc : W - 1 ≤ i
  · simp only [hc, if_true, refreshed_some]
    have hs : i - (W - 1) = lo W i := rfl
    rw [hs]
    exact ⟨sRefresh geS_ok g _ _ i st.mx (lo_pred W i) (lo_le W i) h.mx,
           sRefresh leS_ok g _ _ i st.mn (lo_pred W i) (lo_le W i) h.mn⟩
  · simp only [hc, if_false, refreshed]
    have e1 : lo W i = lo W (i-1) := by unfold lo; omega
    rw [e1]
    exact ⟨h.mx, h.mn⟩

theorem mmStep_inv (g : Nat → Option Rat) (W mp i : Nat) (st : MMSt) (h : MMInv g W i st) :
    MMInv g W (i+1) (mmStep g mp st (startAt W i, i, g i)).1 ∧
    (mmStep g mp st (startAt W i, i, g i)).2 = Spec.tsMinmaxnorm mp (winL g (lo W i) i) := by
  obtain ⟨hr1, hr2⟩ := refreshed_ok g W i st h
  obtain ⟨hn1, hn2⟩ := cnt_step g W i st.n h.n
  have hlo := lo_le W i
  have hx1 := sUpd_extends geS_ok g (lo W i) i _ hlo hr1
  have hx2 := sUpd_extends leS_ok g (lo W i) i _ hlo hr2
  rw [mmStep_eq]; unfold mmEnd
  constructor
  · exact ⟨by simpa using hx1, by simpa using hx2, hn2⟩
  · simp only
    unfold Spec.tsMinmaxnorm
    rw [winL_getLast? g _ _ hlo]
    cases hv : g i with
    | none => simp
    | some x =>
      rw [hv] at hx1 hx2
      obtain ⟨hi_, hhi, _⟩ := hx1.bound i hlo (by omega) x hv
      obtain ⟨lo_, hlo_, _⟩ := hx2.bound i hlo (by omega) x hv
      rw [sent_greatest g (lo W i) i _ hi_ hx1 hhi, sent_least g (lo W i) i _ lo_ hx2 hlo_]
      simp only [hhi, hlo_, Spec.masked]
      rw [vals_length_winL, ← hn1, hv]
      simp only [Option.isSome_some, if_true, ge_iff_le]
      by_cases hm : mp ≤ st.n + 1 <;> by_cases he : hi_ = lo_ <;> simp [hm, he]

theorem mm_run (g : Nat → Option Rat) (W mp n : Nat) :
    runSt (mmStep g mp) ⟨(none, 0), (none, 0), 0⟩
        ((List.range n).map fun i => (startAt W i, i, g i))
      = (List.range n).map fun i => Spec.tsMinmaxnorm mp (winL g (lo W i) i) := by
  apply runSt_range (mmStep g mp) _ (MMInv g W)
  · have hl : lo W (0 - 1) = 0 := lo_zero W
    refine ⟨?_, ?_, ?_⟩
    · rw [hl]; exact sentOK_empty g 0 0
    · rw [hl]; exact sentOK_empty g 0 0
    · show 0 = cnt g (lo W 0) 0
      rw [lo_zero, cnt_empty]
  · intro i s _ hP
    exact mmStep_inv g W mp i s hP

theorem tsVminmaxnorm_exact (sh : Shape) (xs : List (Option Rat)) (w : Nat) (mp : Option Nat)
    (hw : 1 ≤ w) :
    tsVminmaxnorm sh xs w mp =
      (List.range xs.length).map fun i => Spec.tsMinmaxnorm (normMp mp w) (window xs i w) :=
  idxCalls_run _ _ _ sh xs w (fun _ => hw) fun _ => mm_run (get xs) _ _ _

end Tv.C03
