import Tv.Lemmas.C18Scan
import Tv.Lemmas.C18Recognise
/-! C18 — the repaired scanner on a rendered term list: it computes `runTerms`, the per-term
  accumulation (`tdParse_render`). -/
namespace Tv.C18
open Spec

theorem digitChar_val (d : Fin 10) : (digitChar d).toNat - 48 = d.val := by revert d; decide

theorem name_shape (u : TUnit) :
    ∃ l ls, u.name = l :: ls ∧ l.isAlpha = true ∧ l.isDigit = false ∧ ∀ c ∈ ls, c.isAlpha = true := by
  cases u <;> exact ⟨_, _, rfl, by decide, by decide, by decide⟩

theorem digitsAcc_map (ds : List (Fin 10)) (acc : Nat) :
    digitsAcc acc (ds.map digitChar) = some (ds.foldl (fun a d => a * 10 + d.val) acc) := by
  induction ds generalizing acc with
  | nil => rfl
  | cons d ds ih =>
    simp only [List.map_cons, digitsAcc, digitChar_isDigit, ↓reduceIte, digitChar_val, List.foldl_cons]
    exact ih _

theorem parseI64_num (t : Term) :
    parseI64 (numChars t) = if inI64 t.value then some t.value else none := by
  have hd := digitsAcc_map (t.d0 :: t.ds) 0
  rw [List.map_cons] at hd
  unfold numChars Term.value
  cases t.sign
  · simp [Sign.chars, parseI64, digitChar_ne_minus, digitChar_ne_plus, hd, natOf]
  · simp [Sign.chars, parseI64, hd, natOf]
  · simp [Sign.chars, parseI64, hd, natOf]

theorem unitLoop_nonalpha (ch : Char) (unit : List Char) (start off : Nat) (rest : List Char)
    (h : ch.isAlpha = false) : unitLoop ch unit start off rest = (unit, start, off, rest) := by
  cases rest <;> simp [unitLoop, h]

/-- a run of letters up to the end of the text or a non-letter: the unit buffer receives the run;
    the non-letter, if there is one, is consumed and `start` points at it -/
theorem unitLoop_run (ls : List Char) :
    ∀ (ch : Char) (acc : List Char) (start off : Nat) (rest : List Char),
      ch.isAlpha = true → (∀ c ∈ ls, c.isAlpha = true) → (∀ c' ∈ rest.head?, c'.isAlpha = false) →
      ∃ start' off', unitLoop ch acc start off (ls ++ rest) = (acc ++ ch :: ls, start', off', rest.tail) ∧
        ∀ c' ∈ rest.head?, start' = off + utf8Len ls ∧ off' = off + utf8Len ls + c'.utf8Size := by
  induction ls with
  | nil =>
    intro ch acc start off rest hch _ hrest
    cases rest with
    | nil => exact ⟨start, off, by simp [unitLoop, hch], fun _ h => nomatch h⟩
    | cons c' tl =>
      refine ⟨off, off + c'.utf8Size, ?_, by rintro _ ⟨⟩; simp [utf8Len]⟩
      simp only [List.nil_append, unitLoop, hch, ↓reduceIte, unitLoop_nonalpha _ _ _ _ _ (hrest c' rfl)]
      rfl
  | cons l ls ih =>
    intro ch acc start off rest hch hls hrest
    obtain ⟨s', o', h, ho⟩ := ih l (acc ++ [ch]) off (off + l.utf8Size) rest (hls l (by simp))
      (fun c hc => hls c (by simp [hc])) hrest
    refine ⟨s', o', by simp [unitLoop, hch, h], fun c' hc' => ?_⟩
    simp [ho c' hc', utf8Len, Nat.add_assoc]

theorem scan_skip_digits {v : Version} {s : List Char} {st : St} (ds : List Char) :
    ∀ {off : Nat} {rest : List Char}, (∀ c ∈ ds, c.isDigit = true) →
      scan v s st off (ds ++ rest) = scan v s st (off + utf8Len ds) rest := by
  induction ds with
  | nil => intro off rest _; simp [utf8Len]
  | cons d ds ih =>
    intro off rest h
    rw [List.cons_append, scan_skip (Or.inl (h d (by simp))), ih (fun c hc => h c (by simp [hc]))]
    simp [utf8Len, Nat.add_assoc]

/-- what the repaired scanner computes on a rendered term list: per term the `i64` parse,
    the unit arm, and `finish` at the end -/
def runTerms (st : St) : List Term → Res
  | [] => finish .repaired st
  | t :: ts =>
    if inI64 t.value then
      match applyUnit .repaired st t.value t.unit.name with
      | .error e => e
      | .ok st' => runTerms st' ts
    else .err .num

theorem applyUnit_start (st : St) (x : Nat) (n : Int) (u : List Char) :
    applyUnit .repaired { st with start := x } n u =
      match applyUnit .repaired st n u with
      | .error e => .error e
      | .ok s => .ok { s with start := x } := by
  unfold applyUnit
  split
  · rfl
  · simp only
    unfold applyRepaired
    split <;> simp only <;> split <;> rfl

theorem runTerms_start (ts : List Term) :
    ∀ (st : St) (x : Nat), runTerms { st with start := x } ts = runTerms st ts := by
  induction ts with
  | nil => intro st x; rfl
  | cons t ts ih =>
    intro st x
    simp only [runTerms]
    split
    · rw [applyUnit_start]
      cases h : applyUnit .repaired st t.value t.unit.name with
      | error e => rfl
      | ok s => exact ih s x
    · rfl

/-- one term of the text: its digits are skipped, the unit loop runs over the letters of the unit
    name, the unit arm is applied.  What follows the term (`rest`) is the end of the text or
    starts with a non-letter, where the scanner goes on. -/
theorem scan_term (t : Term) (s pre : List Char) (st : St) (c : Char) (tl rest : List Char)
    (hnum : numChars t = c :: tl) (htl : ∀ x ∈ tl, x.isDigit = true)
    (hs : s = pre ++ t.render ++ rest) (hstart : st.start = utf8Len pre)
    (hrest : ∀ c' ∈ rest.head?, c'.isAlpha = false) :
    scan .repaired s st (utf8Len pre + c.utf8Size) (tl ++ t.unit.name ++ rest) =
      if inI64 t.value then
        match applyUnit .repaired st t.value t.unit.name with
        | .error e => e
        | .ok st' =>
          match rest with
          | [] => finish .repaired st'
          | c' :: tl' => scan .repaired s { st' with start := utf8Len (pre ++ t.render) }
              (utf8Len (pre ++ t.render) + c'.utf8Size) tl'
      else .err .num := by
  obtain ⟨l, ls, hname, hl, hld, hls⟩ := name_shape t.unit
  have hcpos := Char.utf8Size_pos c
  rw [List.append_assoc, scan_skip_digits _ htl, hname]
  have hsl : slice s st.start (utf8Len pre + c.utf8Size + utf8Len tl) = some (c :: tl) := by
    have := slice_mid pre (c :: tl) (t.unit.name ++ rest)
    rw [hs, render_eq, hnum, hstart]
    simpa [utf8Len, Nat.add_assoc] using this
  have hp := parseI64_num t
  rw [hnum] at hp
  by_cases hv : inI64 t.value = true
  · simp only [hv, ↓reduceIte] at hp ⊢
    have hpre : utf8Len (pre ++ t.render)
        = utf8Len pre + c.utf8Size + utf8Len tl + l.utf8Size + utf8Len ls := by
      simp [render_eq, hnum, hname, utf8Len_append, utf8Len, Nat.add_assoc]
    obtain ⟨s', o', hloop, ho⟩ := unitLoop_run ls l [] st.start
      (utf8Len pre + c.utf8Size + utf8Len tl + l.utf8Size) rest hl hls hrest
    rw [List.cons_append, scan_trigger hld (by omega) hsl hp (by simpa using hloop) (by simp)]
    cases applyUnit .repaired st t.value (l :: ls) with
    | error e => rfl
    | ok st' =>
      cases rest with
      | nil => exact scan_nil
      | cons c' tl' =>
        obtain ⟨rfl, rfl⟩ := ho c' rfl
        rw [hpre]
        rfl
  · simp only [hv, Bool.false_eq_true, ↓reduceIte] at hp ⊢
    exact scan_trigger_numfail hld (by omega) hsl hp

theorem scan_terms (ts : List Term) :
    ∀ (t : Term) (s pre : List Char) (st : St) (c : Char) (tl : List Char),
      numChars t = c :: tl → (∀ x ∈ tl, x.isDigit = true) →
      s = pre ++ t.render ++ render ts →
      st.start = utf8Len pre →
      scan .repaired s st (utf8Len pre + c.utf8Size) (tl ++ t.unit.name ++ render ts)
        = runTerms st (t :: ts) := by
  induction ts with
  | nil =>
    intro t s pre st c tl hnum htl hs hstart
    exact (scan_term t s pre st c tl [] hnum htl hs hstart (fun _ h => nomatch h)).trans rfl
  | cons t' ts' ih =>
    intro t s pre st c tl hnum htl hs hstart
    obtain ⟨c', tl', hnum', hc', htl'⟩ := numChars_shape t'
    have hr := render_cons hnum' ts'
    rw [hr] at hs ⊢
    rw [scan_term t s pre st c tl _ hnum htl hs hstart (fun _ h => by cases h; exact hc'), runTerms]
    split
    · cases applyUnit .repaired st t.value t.unit.name with
      | error e => rfl
      | ok st' =>
        have := ih t' s (pre ++ t.render) { st' with start := utf8Len (pre ++ t.render) } c' tl' hnum' htl'
          (by rw [hs, ← hr]; simp only [render, List.append_assoc]) rfl
        exact this.trans (runTerms_start (t' :: ts') st' _)
    · rfl

theorem tdParse_render (ts : List Term) : tdParse .repaired (render ts) = runTerms {} ts := by
  cases ts with
  | nil => simp [tdParse, render, scan_nil, runTerms]
  | cons t ts =>
    obtain ⟨c, tl, hnum, _, htl⟩ := numChars_shape t
    have hr := render_cons hnum ts
    unfold tdParse
    rw [hr, scan_skip (Or.inr rfl), ← hr]
    have := scan_terms ts t (render (t :: ts)) [] {} c tl hnum htl (by simp [render]) rfl
    simpa [utf8Len] using this

end Tv.C18
