import Tv.Lemmas.C12Quant
/-!
Counting in the sorted order, for `vrank`: a run of equal values at the sorted positions `a..=i` has
`a` valid elements before it and `i + 1 - a` equal to it (`Ctx.run_counts`).

`W p` is the value at sorted position `p` (`self.uget(idx_sorted.uget(p))`). Everything is derived
from three facts about the argsort result `s` (`Ctx`): it has the length of the input, it is a
permutation of `0..len`, and the values it points at are ordered (nulls last).
-/
namespace Tv.C12
open Tv

theorem getD_of_lt {α : Type} (l : List α) (d : α) {i : Nat} (h : i < l.length) : l.getD i d = l[i] := by
  simp [List.getD_eq_getElem?_getD, List.getElem?_eq_getElem h]

def W (xs : List Elem) (s : List Nat) (p : Nat) : Elem := xs.getD (s.getD p 0) none

structure Ctx (xs : List Elem) (s : List Nat) (rev : Bool) : Prop where
  slen : s.length = xs.length
  sperm : s.Perm (List.range xs.length)
  sorted : ∀ p q, p ≤ q → q < xs.length → leE rev (W xs s p) (W xs s q) = true

theorem Std.Ok.ctx {S : Std} (hS : S.Ok) (xs : List Elem) (rev : Bool) :
    Ctx xs (S.sort (leIdx rev xs) (List.range xs.length)) rev := by
  have hperm := hS.sort_perm (leIdx rev xs) (List.range xs.length)
  have hsorted := hS.sort_sorted (leIdx rev xs) (leIdx_total rev xs) (leIdx_trans rev xs)
    (List.range xs.length)
  have hlen : (S.sort (leIdx rev xs) (List.range xs.length)).length = xs.length := by
    rw [hperm.length_eq]; simp
  refine ⟨hlen, hperm, ?_⟩
  intro p q hpq hq
  rcases Nat.lt_or_eq_of_le hpq with h | h
  · have hp' : p < (S.sort (leIdx rev xs) (List.range xs.length)).length := by rw [hlen]; omega
    have hq' : q < (S.sort (leIdx rev xs) (List.range xs.length)).length := by rw [hlen]; omega
    have := List.pairwise_iff_getElem.mp hsorted p q hp' hq' h
    simp only [W, getD_of_lt _ _ hp', getD_of_lt _ _ hq']
    exact this
  · subst h; exact leE_refl _ _

namespace Ctx
variable {xs : List Elem} {s : List Nat} {rev : Bool}

theorem sI_lt (c : Ctx xs s rev) {p : Nat} (hp : p < xs.length) : s.getD p 0 < xs.length := by
  have hp' : p < s.length := by rw [c.slen]; exact hp
  have : s.getD p 0 ∈ s := by
    rw [List.getD_eq_getElem?_getD, List.getElem?_eq_getElem hp']; simp
  simpa using c.sperm.mem_iff.mp this

theorem sI_inj (c : Ctx xs s rev) {p q : Nat} (hp : p < xs.length) (hq : q < xs.length)
    (h : s.getD p 0 = s.getD q 0) : p = q := by
  have hp' : p < s.length := by rw [c.slen]; exact hp
  have hq' : q < s.length := by rw [c.slen]; exact hq
  have hnd : s.Nodup := c.sperm.nodup_iff.mpr List.nodup_range
  exact (List.getD_inj hp' hq' hnd).mp h

theorem sI_surj (c : Ctx xs s rev) {k : Nat} (hk : k < xs.length) : ∃ p, p < xs.length ∧ s.getD p 0 = k := by
  have : k ∈ s := c.sperm.mem_iff.mpr (by simpa using hk)
  obtain ⟨p, hp, hpk⟩ := List.getElem_of_mem this
  refine ⟨p, by rw [← c.slen]; exact hp, ?_⟩
  rw [List.getD_eq_getElem?_getD, List.getElem?_eq_getElem hp]; simpa using hpk

theorem vals_eq (c : Ctx xs s rev) : s.map (key xs) = sortedE rev xs := by
  apply sorted_eq_sortedE rev
  · have := c.sperm.map (key xs)
    rwa [map_key_range] at this
  · rw [List.pairwise_iff_getElem]
    intro i j hi hj hij
    have hi' : i < s.length := by simpa using hi
    have hj' : j < s.length := by simpa using hj
    have := c.sorted i j (Nat.le_of_lt hij) (by rw [← c.slen]; exact hj')
    simpa [W, key, List.getD_eq_getElem?_getD, List.getElem?_eq_getElem hi',
      List.getElem?_eq_getElem hj'] using this

theorem vals_get (c : Ctx xs s rev) {p : Nat} (hp : p < xs.length) :
    (s.map (key xs))[p]? = some (W xs s p) := by
  have hp' : p < s.length := by rw [c.slen]; exact hp
  simp [W, key, List.getD_eq_getElem?_getD, List.getElem?_eq_getElem hp']

theorem vals_perm (c : Ctx xs s rev) : (s.map (key xs)).Perm xs := by
  rw [c.vals_eq]; exact sortedE_perm rev xs

theorem W_none_iff (c : Ctx xs s rev) {p : Nat} (hpl : p < xs.length) :
    W xs s p = none ↔ (valid xs).length ≤ p := by
  have h1 := c.vals_get hpl
  rw [c.vals_eq] at h1
  rcases Nat.lt_or_ge p (valid xs).length with hp | hp
  · obtain ⟨v, hv⟩ := sortedValid_get rev xs hp
    rw [sortedE_get rev xs hp, hv] at h1
    exact iff_of_false (fun h => by rw [h] at h1; cases h1) (Nat.not_le.mpr hp)
  · unfold sortedE at h1
    rw [List.getElem?_append_right (by simpa using hp), List.getElem?_replicate] at h1
    split at h1
    · exact iff_of_true (Option.some.inj h1).symm hp
    · cases h1

theorem xs_at (c : Ctx xs s rev) {p : Nat} (hp : p < xs.length) : xs[s.getD p 0]? = some (W xs s p) := by
  have := c.sI_lt hp
  unfold W
  rw [getD_of_lt xs none this, List.getElem?_eq_getElem this]

end Ctx

theorem countP_prefix {α : Type} (p : α → Bool) (l : List α) (a : Nat)
    (h : ∀ q (hq : q < l.length), p l[q] = true ↔ q < a) (ha : a ≤ l.length) : l.countP p = a := by
  have h1 : (l.take a).countP p = (l.take a).length := by
    rw [List.countP_eq_length]
    intro x hx
    obtain ⟨q, hq, rfl⟩ := List.mem_take_iff_getElem.mp hx
    exact (h q (by omega)).mpr (by omega)
  have h2 : (l.drop a).countP p = 0 := by
    rw [List.countP_eq_zero]
    intro x hx
    obtain ⟨q, hq, rfl⟩ := List.mem_drop_iff_getElem.mp hx
    exact fun hp => absurd ((h _ (by omega)).mp hp) (by omega)
  rw [← List.take_append_drop a l, List.countP_append, h1, h2, List.length_take, Nat.min_eq_left ha, Nat.add_zero]

theorem countP_split {α : Type} (p q : α → Bool) (l : List α) (h : ∀ e, q e = true → p e = true) :
    l.countP p = l.countP (fun e => p e && !q e) + l.countP q := by
  induction l with
  | nil => simp
  | cons x l ih =>
    simp only [List.countP_cons, ih]
    cases hq : q x
    · simp only [Bool.not_false, Bool.and_true, Bool.false_eq_true, if_false, Nat.add_zero]
      omega
    · simp only [h x hq, Bool.not_true, Bool.and_false, Bool.false_eq_true, if_false, if_true,
        Nat.add_zero]
      omega

/-- "strictly before `some v`" in the null-last order selected by `rev` -/
def beforeE (rev : Bool) (v : Rat) (e : Elem) : Bool := leE rev e (some v) && !(e == some v)

/-- the number of valid elements before `v`: smaller (ascending) or larger (descending) -/
def cntBefore (xs : List Elem) (rev : Bool) (v : Rat) : Nat :=
  if rev then Spec.cntGt xs v else Spec.cntLt xs v

theorem beforeE_some (rev : Bool) (v x : Rat) :
    beforeE rev v (some x) = true ↔ if rev then v < x else x < v := by
  unfold beforeE
  rw [Bool.and_eq_true, leE_some_some, leR_iff, Bool.not_eq_true', beq_eq_false_iff_ne, Ne, Option.some.injEq]
  cases rev
  · exact ⟨fun h => lt_of_le_of_ne h.1 h.2, fun h => ⟨le_of_lt h, ne_of_lt h⟩⟩
  · exact ⟨fun h => lt_of_le_of_ne h.1 (Ne.symm h.2), fun h => ⟨le_of_lt h, ne_of_gt h⟩⟩

theorem cntBefore_eq (xs : List Elem) (rev : Bool) (v : Rat) :
    cntBefore xs rev v = xs.countP (beforeE rev v) := by
  have h : cntBefore xs rev v =
      (valid xs).countP (fun x => if rev then decide (v < x) else decide (x < v)) := by
    cases rev <;> rfl
  rw [h, valid, List.countP_filterMap]
  apply List.countP_congr
  intro e _
  cases e with
  | none => simp [beforeE]
  | some x =>
    rw [beforeE_some]
    show (if rev = true then decide (v < x) else decide (x < v)) = true ↔ _
    cases rev <;> exact decide_eq_true_iff

theorem cntEq_eq (xs : List Elem) (v : Rat) : Spec.cntEq xs v = xs.countP (fun e => e == some v) := by
  unfold Spec.cntEq valid
  rw [List.countP_filterMap]
  apply List.countP_congr
  intro e _
  cases e <;> simp

/-- **counting in the sorted order**: if the sorted positions `a..=i` are exactly the run of the value
`v` (nothing equal before `a`, the next position differs), then `a` valid elements come strictly
before `v` and `i+1-a` are equal to it -/
theorem Ctx.run_counts {xs : List Elem} {s : List Nat} {rev : Bool} (c : Ctx xs s rev)
    {a i : Nat} {v : Rat} (hai : a ≤ i) (hi : i < xs.length)
    (hrun : ∀ p, a ≤ p → p ≤ i → W xs s p = some v)
    (hbef : ∀ q, q < a → W xs s q ≠ some v)
    (haft : i + 1 < xs.length → W xs s (i + 1) ≠ some v) :
    cntBefore xs rev v = a ∧ Spec.cntEq xs v = i + 1 - a := by
  have hlen : (s.map (key xs)).length = xs.length := by simp [c.slen]
  have hget : ∀ q (hq : q < (s.map (key xs)).length), (s.map (key xs))[q] = W xs s q := by
    intro q hq
    have := c.vals_get (hlen ▸ hq)
    exact (List.getElem?_eq_some_iff.mp this).2
  have hWi : W xs s i = some v := hrun i hai (Nat.le_refl _)
  -- beyond the run nothing is ≤ v
  have hbeyond : ∀ q, i < q → q < xs.length → leE rev (W xs s q) (some v) = false := by
    intro q hiq hq
    by_contra hle
    have hle : leE rev (W xs s q) (some v) = true := by simpa using hle
    have hi1 : i + 1 < xs.length := Nat.lt_of_le_of_lt hiq hq
    have h1 : leE rev (W xs s (i + 1)) (W xs s q) = true := c.sorted (i + 1) q hiq hq
    have h2 : leE rev (W xs s i) (W xs s (i + 1)) = true := c.sorted i (i + 1) (Nat.le_succ i) hi1
    rw [hWi] at h2
    have h3 := leE_trans rev _ _ _ h1 hle
    exact haft hi1 (leE_antisymm rev _ _ h3 h2)
  have hle_iff : ∀ q (hq : q < (s.map (key xs)).length),
      leE rev (s.map (key xs))[q] (some v) = true ↔ q < i + 1 := by
    intro q hq
    rw [hget q hq]
    constructor
    · intro h
      by_contra hn
      have := hbeyond q (Nat.lt_of_succ_le (Nat.le_of_not_lt hn)) (hlen ▸ hq)
      rw [h] at this; cases this
    · intro h
      have := c.sorted q i (Nat.le_of_lt_succ h) hi
      rwa [hWi] at this
  have hbef_iff : ∀ q (hq : q < (s.map (key xs)).length),
      beforeE rev v (s.map (key xs))[q] = true ↔ q < a := by
    intro q hq
    rw [hget q hq]
    unfold beforeE
    constructor
    · intro h
      simp only [Bool.and_eq_true, Bool.not_eq_true', beq_eq_false_iff_ne, ne_eq] at h
      by_contra hn
      by_cases hqi : q ≤ i
      · exact h.2 (hrun q (Nat.le_of_not_lt hn) hqi)
      · have := hbeyond q (Nat.lt_of_not_le hqi) (hlen ▸ hq)
        rw [h.1] at this; cases this
    · intro h
      have h1 := c.sorted q i (Nat.le_trans (Nat.le_of_lt h) hai) hi
      rw [hWi] at h1
      simp only [Bool.and_eq_true, Bool.not_eq_true', beq_eq_false_iff_ne, ne_eq]
      exact ⟨h1, hbef q h⟩
  have c1 := countP_prefix (beforeE rev v) (s.map (key xs)) a hbef_iff
    (hlen ▸ Nat.le_trans hai (Nat.le_of_lt hi))
  have c2 := countP_prefix (fun e => leE rev e (some v)) (s.map (key xs)) (i + 1) hle_iff
    (hlen ▸ hi)
  have c3 : List.countP (fun e => leE rev e (some v)) (s.map (key xs))
      = List.countP (beforeE rev v) (s.map (key xs)) + List.countP (fun e => e == some v) (s.map (key xs)) :=
    countP_split (fun e => leE rev e (some v)) (fun e => e == some v) (s.map (key xs))
      (by intro e he; simp only [beq_iff_eq] at he; subst he; exact leE_refl _ _)
  have hp := c.vals_perm
  rw [cntBefore_eq, cntEq_eq, ← hp.countP_eq, ← hp.countP_eq]
  refine ⟨c1, ?_⟩
  omega

/-! a write loop `for p in ps { out.uset(idx_sorted.uget(p), v) }` is a fold of `set` over `ps` -/

theorem setAll_length (s : List Nat) (v : Out) (ps : List Nat) (out : List (Option Out)) :
    (ps.foldl (fun o p => o.set (s.getD p 0) (some v)) out).length = out.length := by
  induction ps generalizing out with
  | nil => rfl
  | cons p ps ih => rw [List.foldl_cons, ih, List.length_set]

theorem setAll_miss (s : List Nat) (v : Out) (ps : List Nat) (out : List (Option Out)) (k : Nat)
    (h : ∀ p ∈ ps, s.getD p 0 ≠ k) :
    (ps.foldl (fun o p => o.set (s.getD p 0) (some v)) out)[k]? = out[k]? := by
  induction ps generalizing out with
  | nil => rfl
  | cons p ps ih =>
    rw [List.foldl_cons, ih _ (fun p' hp' => h p' (List.mem_cons_of_mem _ hp'))]
    exact List.getElem?_set_ne (h p List.mem_cons_self)

theorem setAll_hit (s : List Nat) (v : Out) (ps : List Nat) (out : List (Option Out)) (p : Nat)
    (hp : p ∈ ps) (hk : s.getD p 0 < out.length) :
    (ps.foldl (fun o p => o.set (s.getD p 0) (some v)) out)[s.getD p 0]? = some (some v) := by
  induction ps generalizing out p with
  | nil => cases hp
  | cons p0 ps ih =>
    rw [List.foldl_cons]
    by_cases hex : ∃ p' ∈ ps, s.getD p' 0 = s.getD p 0
    · obtain ⟨p', hp', he⟩ := hex
      rw [← he]
      exact ih _ p' hp' (by rw [List.length_set, he]; exact hk)
    · have hmiss : ∀ p' ∈ ps, s.getD p' 0 ≠ s.getD p 0 := fun p' hp' he => hex ⟨p', hp', he⟩
      rw [setAll_miss s v ps _ _ hmiss]
      rcases List.mem_cons.mp hp with rfl | hp'
      · exact List.getElem?_set_self hk
      · exact absurd rfl (hmiss p hp')

/-- a run is written at the positions `i, i - 1, …, i - (r - 1)` -/
theorem writeRun_eq (s : List Nat) (out : List (Option Out)) (i : Nat) (v : Out) (r : Nat) :
    writeRun s out i v r =
      ((List.range r).map (i - ·)).foldl (fun o p => o.set (s.getD p 0) (some v)) out := by
  induction r with
  | zero => rfl
  | succ r ih => rw [List.range_succ, List.map_append, List.foldl_append, ← ih]; rfl

theorem writeRun_length (s : List Nat) (out : List (Option Out)) (i : Nat) (v : Out) (r : Nat) :
    (writeRun s out i v r).length = out.length := by
  rw [writeRun_eq, setAll_length]

theorem writeRun_miss (s : List Nat) (out : List (Option Out)) (i : Nat) (v : Out) (r k : Nat)
    (h : ∀ r', r' < r → s.getD (i - r') 0 ≠ k) : (writeRun s out i v r)[k]? = out[k]? := by
  rw [writeRun_eq]
  apply setAll_miss
  intro p hp
  obtain ⟨r', hr', rfl⟩ := List.mem_map.mp hp
  exact h r' (List.mem_range.mp hr')

theorem writeRun_hit (s : List Nat) (out : List (Option Out)) (i : Nat) (v : Out) (r r' : Nat)
    (hr : r' < r) (hk : s.getD (i - r') 0 < out.length) :
    (writeRun s out i v r)[s.getD (i - r') 0]? = some (some v) := by
  rw [writeRun_eq]
  exact setAll_hit s v _ out (i - r') (List.mem_map.mpr ⟨r', List.mem_range.mpr hr, rfl⟩) hk

end Tv.C12
