import Tv.Spec.C18Spec
/-! C18 — the text of a rendered term list, and the from-scratch recogniser of the specification against
  `render`: it recognises every rendered list as itself, and whatever it accepts is the rendering of the
  terms it returns. -/
namespace Tv.C18
open Spec

theorem digitChar_isDigit (d : Fin 10) : (digitChar d).isDigit = true := by revert d; decide
theorem digitChar_not_alpha (d : Fin 10) : (digitChar d).isAlpha = false := by revert d; decide
theorem digitChar_ne_minus (d : Fin 10) : digitChar d ≠ '-' := by revert d; decide
theorem digitChar_ne_plus (d : Fin 10) : digitChar d ≠ '+' := by revert d; decide

def numChars (t : Term) : List Char := t.sign.chars ++ (t.d0 :: t.ds).map digitChar

theorem render_eq (t : Term) : t.render = numChars t ++ t.unit.name := rfl

theorem numChars_shape (t : Term) :
    ∃ c tl, numChars t = c :: tl ∧ c.isAlpha = false ∧ ∀ x ∈ tl, x.isDigit = true := by
  have hd (ds : List (Fin 10)) : ∀ x ∈ ds.map digitChar, x.isDigit = true := by
    intro x hx
    obtain ⟨d, _, rfl⟩ := List.mem_map.mp hx
    exact digitChar_isDigit d
  unfold numChars
  cases t.sign
  · exact ⟨digitChar t.d0, t.ds.map digitChar, rfl, digitChar_not_alpha _, hd _⟩
  · exact ⟨'+', (t.d0 :: t.ds).map digitChar, rfl, by decide, hd _⟩
  · exact ⟨'-', (t.d0 :: t.ds).map digitChar, rfl, by decide, hd _⟩

theorem render_cons {t : Term} {c : Char} {tl : List Char} (h : numChars t = c :: tl) (ts : List Term) :
    render (t :: ts) = c :: (tl ++ t.unit.name ++ render ts) := by
  rw [render, render_eq, h]
  rfl

theorem takeWhile_run {α : Type} (p : α → Bool) (l r : List α) (hl : ∀ x ∈ l, p x = true)
    (hr : ∀ y ∈ r.head?, p y = false) : (l ++ r).takeWhile p = l ∧ (l ++ r).dropWhile p = r := by
  have h : r.takeWhile p = [] ∧ r.dropWhile p = r := by
    cases r with
    | nil => exact ⟨rfl, rfl⟩
    | cons y r => simp [hr y rfl]
  rw [List.takeWhile_append_of_pos hl, List.dropWhile_append_of_pos hl, h.1, h.2, List.append_nil]
  exact ⟨rfl, rfl⟩

theorem digitOf_digitChar (d : Fin 10) : digitOf (digitChar d) = some d := by revert d; decide
theorem isLetter_digitChar (d : Fin 10) : isLetter (digitChar d) = false := by revert d; decide

theorem filterMap_digitOf (ds : List (Fin 10)) : (ds.map digitChar).filterMap digitOf = ds := by
  induction ds with
  | nil => rfl
  | cons d ds ih => simp [digitOf_digitChar, ih]

theorem unitOfName_name (u : TUnit) : unitOfName u.name = some u := by cases u <;> rfl

theorem name_letters (u : TUnit) : ∀ c ∈ u.name, isLetter c = true := by
  cases u <;> decide

theorem name_head_not_digit (u : TUnit) (r : List Char) : ∀ y ∈ (u.name ++ r).head?, isDigitChar y = false := by
  cases u <;> (intro y hy; cases hy; decide)

theorem render_head_not_letter (ts : List Term) : ∀ y ∈ (render ts).head?, isLetter y = false := by
  cases ts with
  | nil => simp [render]
  | cons t ts =>
    intro y hy
    simp only [render, Term.render] at hy
    cases hs : t.sign <;> simp [hs, Sign.chars] at hy <;> subst hy
    · exact isLetter_digitChar _
    · decide
    · decide

theorem signOf_render (t : Term) (ts : List Term) : signOf (t.render ++ render ts) = t.sign := by
  unfold Term.render
  cases t.sign <;> simp [Sign.chars, signOf, digitChar_ne_minus, digitChar_ne_plus]

theorem bodyOf_render (t : Term) (ts : List Term) :
    bodyOf (t.render ++ render ts) = (t.d0 :: t.ds).map digitChar ++ (t.unit.name ++ render ts) := by
  unfold Term.render
  cases t.sign <;> simp [Sign.chars, bodyOf, digitChar_ne_minus, digitChar_ne_plus]

theorem takeTerm_render (t : Term) (ts : List Term) :
    takeTerm (render (t :: ts)) = some (t, render ts) := by
  have h1 := takeWhile_run isDigitChar ((t.d0 :: t.ds).map digitChar) (t.unit.name ++ render ts)
    (by intro x hx; obtain ⟨d, _, rfl⟩ := List.mem_map.mp hx; simp [isDigitChar, digitOf_digitChar])
    (name_head_not_digit t.unit _)
  have h2 := takeWhile_run isLetter t.unit.name (render ts)
    (name_letters t.unit) (render_head_not_letter ts)
  unfold takeTerm
  rw [render, signOf_render, bodyOf_render, h1.1, h1.2, h2.1, h2.2, filterMap_digitOf, unitOfName_name]

theorem render_length (ts : List Term) : ts.length ≤ (render ts).length := by
  induction ts with
  | nil => simp
  | cons t ts ih =>
    simp only [render, List.length_append, List.length_cons, Term.render, List.length_map]
    omega

theorem recognise_render (ts : List Term) :
    ∀ fuel, ts.length ≤ fuel → recognise fuel (render ts) = some ts := by
  induction ts with
  | nil =>
    intro fuel _
    cases fuel <;> rfl
  | cons t ts ih =>
    intro fuel hf
    cases fuel with
    | zero => exact absurd hf (Nat.not_succ_le_zero _)
    | succ fuel =>
      obtain ⟨c, tl, hnum, _, _⟩ := numChars_shape t
      have ht := takeTerm_render t ts
      rw [render_cons hnum] at ht ⊢
      simp only [recognise, ht]
      rw [ih fuel (Nat.le_of_succ_le_succ hf)]
      rfl

theorem digitChar_of_digitOf {c : Char} {d : Fin 10} (h : digitOf c = some d) : digitChar d = c := by
  unfold digitOf at h
  split at h
  · rename_i hc
    cases h
    simp only [digitChar]
    have : 48 + (c.toNat - 48) = c.toNat := by omega
    rw [this]
    exact Char.ofNat_toNat c
  · cases h

theorem map_filterMap_digits (l : List Char) (h : ∀ c ∈ l, isDigitChar c = true) :
    (l.filterMap digitOf).map digitChar = l := by
  induction l with
  | nil => rfl
  | cons c l ih =>
    have hc := h c (by simp)
    unfold isDigitChar at hc
    obtain ⟨d, hd⟩ := Option.isSome_iff_exists.mp hc
    simp [hd, digitChar_of_digitOf hd, ih (fun c hc => h c (by simp [hc]))]

theorem unitOfName_sound {cs : List Char} {u : TUnit} (h : unitOfName cs = some u) : u.name = cs := by
  unfold unitOfName at h
  have := List.find?_some h
  simpa using this

theorem sign_body (s : List Char) : (signOf s).chars ++ bodyOf s = s := by
  cases s with
  | nil => rfl
  | cons c cs =>
    by_cases h1 : c = '-'
    · subst h1
      simp [signOf, bodyOf, Sign.chars]
    · by_cases h2 : c = '+'
      · subst h2
        simp [signOf, bodyOf, Sign.chars]
      · simp [signOf, bodyOf, Sign.chars, h1, h2]

theorem takeTerm_sound {s : List Char} {t : Term} {tail : List Char}
    (h : takeTerm s = some (t, tail)) : s = t.render ++ tail := by
  unfold takeTerm at h
  split at h
  · rename_i d0 ds u hd hu
    cases h
    have h1 := map_filterMap_digits ((bodyOf s).takeWhile isDigitChar) (List.all_eq_true.mp List.all_takeWhile)
    rw [hd] at h1
    have h2 := unitOfName_sound hu
    simp only [Term.render]
    rw [h1, h2, List.append_assoc, List.append_assoc, List.takeWhile_append_dropWhile,
      List.takeWhile_append_dropWhile, sign_body]
  · cases h

theorem recognise_sound (fuel : Nat) (s : List Char) (ts : List Term) (h : recognise fuel s = some ts) :
    s = render ts := by
  fun_induction recognise fuel s generalizing ts with
  | case1 =>
    cases h
    rfl
  | case2 => cases h
  | case3 fuel c cs t tail ht ih =>
    obtain ⟨ts', hrec, rfl⟩ := Option.map_eq_some_iff.mp h
    rw [takeTerm_sound ht, ih ts' hrec]
    rfl
  | case4 => cases h

end Tv.C18
