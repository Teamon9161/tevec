import Tv.Lemmas.C11Fold
/-!
  C11 helper lemmas: counting folds, first / last valid element, boolean folds and the masked
  selection.
-/
namespace Tv.C11
open Tv

theorem foldl_count {α : Type _} (P : α → Prop) [DecidablePred P] (l : List α) :
    l.foldl (fun acc x => if P x then acc + 1 else acc) 0
      = (l.filter fun x => decide (P x)).length := by
  induction l using List.reverseRecOn with
  | nil => rfl
  | append_singleton l x ih =>
    rw [List.foldl_append, ih, List.filter_append, List.length_append]
    by_cases h : P x
    · rw [List.filter_cons_of_pos (p := fun x => decide (P x)) (decide_eq_true h)]; exact if_pos h
    · rw [List.filter_cons_of_neg (p := fun x => decide (P x)) fun hd => h (of_decide_eq_true hd)]
      exact if_neg h

/-- the plain count-and-sum fold is the null-skipping one on an all-valid series -/
theorem foldl_nsum (xs : List Rat) :
    xs.foldl (fun (p : Nat × Rat) x => (p.1 + 1, p.2 + x)) (0, 0) = (xs.length, Spec.sum xs) := by
  have h := vfoldN_eq (· + ·) (0 : Rat) (xs.map some)
  rw [valid_map_some, foldl_add_eq, zero_add] at h
  rw [← h]; unfold vfoldN; rw [List.foldl_map]; rfl

theorem filter_isNone_eq {α : Type _} [DecidableEq α] (xs : List (Option α)) :
    (xs.filter fun x => decide (x.isNone = true)) = xs.filter fun x => decide (x = none) := by
  apply List.filter_congr
  intro x _
  cases x <;> simp

theorem find_isSome_eq (xs : List (Option α)) :
    xs.find? (·.isSome) = ((valid xs).head?).map some := by
  induction xs with
  | nil => rfl
  | cons x xs ih => cases x <;> simp [ih]

theorem findIdx?_map_some (xs : List Rat) (m : Rat) :
    (xs.map some).findIdx? (· = some m) = xs.findIdx? (· = m) := by
  rw [List.findIdx?_map]; congr 1; funext x; simp

theorem valid_reverse (xs : List (Option α)) : valid xs.reverse = (valid xs).reverse := by
  simp [valid, List.filterMap_reverse]

theorem foldl_or (l : List Bool) (a : Bool) :
    l.foldl (fun acc x => acc || x) a = (a || l.contains true) := by
  induction l generalizing a with
  | nil => exact (Bool.or_false a).symm
  | cons x t ih => rw [List.foldl_cons, ih, List.contains_cons, Bool.true_beq, Bool.or_assoc]

theorem foldl_and (l : List Bool) (a : Bool) :
    l.foldl (fun acc x => acc && x) a = (a && !l.contains false) := by
  induction l generalizing a with
  | nil => exact (Bool.and_true a).symm
  | cons x t ih =>
    rw [List.foldl_cons, ih, List.contains_cons, Bool.false_beq, Bool.not_or, Bool.not_not,
      Bool.and_assoc]

theorem any_id_eq (l : List Bool) : l.any id = l.contains true := by
  induction l with
  | nil => rfl
  | cons x t ih => rw [List.any_cons, List.contains_cons, ih, Bool.true_beq]; rfl

theorem all_id_eq (l : List Bool) : l.all id = !l.contains false := by
  induction l with
  | nil => rfl
  | cons x t ih =>
    rw [List.all_cons, List.contains_cons, ih, Bool.false_beq, Bool.not_or, Bool.not_not]; rfl

theorem filterMap_range_zip {α β γ : Type _} (f : Option α → Option β → Option γ)
    (xs : List α) (ys : List β) :
    (List.range (min xs.length ys.length)).filterMap (fun i => f xs[i]? ys[i]?)
      = (xs.zip ys).filterMap fun p => f (some p.1) (some p.2) := by
  induction xs generalizing ys with
  | nil => rw [List.length_nil, Nat.zero_min]; rfl
  | cons x xs ih =>
    cases ys with
    | nil => rfl
    | cons y ys =>
      rw [List.length_cons, List.length_cons, Nat.succ_min_succ, List.range_succ_eq_map,
        List.filterMap_cons, List.filterMap_map, List.zip_cons_cons, List.filterMap_cons]
      rw [← ih ys]; rfl

theorem selected_eq (xs : List (Option Rat)) (ms : List (Option Bool)) :
    Spec.selected xs ms
      = (xs.zip ms).filterMap fun p => if some p.2 = some (some true) then p.1 else none :=
  filterMap_range_zip (fun a b => if b = some (some true) then a.join else none) xs ms

theorem valid_keepFlag (xs : List (Option Rat)) (ms : List (Option Bool)) :
    valid ((xs.zip ms).filterMap keepFlag) = Spec.selected xs ms := by
  rw [selected_eq, valid, List.filterMap_filterMap]
  congr 1; funext p
  obtain ⟨x, m⟩ := p
  cases m with
  | none => rfl
  | some b => cases b <;> rfl

theorem selected_perm {xs xs' : List (Option Rat)} {ms ms' : List (Option Bool)}
    (h : (xs.zip ms).Perm (xs'.zip ms')) :
    (Spec.selected xs ms).Perm (Spec.selected xs' ms') := by
  rw [← valid_keepFlag, ← valid_keepFlag]
  exact valid_perm (h.filterMap _)

end Tv.C11
