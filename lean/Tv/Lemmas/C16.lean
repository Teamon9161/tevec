import Tv.Model.C16Time
import Tv.Spec.C16Calendar
/-!
  The laws of unit change are laws of `x * p / q` for positive integers; the unit constants enter only
  through `mult_pos`, `mult_dvd`, `five_dvd_ratio` and the table through `lookup_unitTable`. The
  second half reads the range predicates and outcomes of the model as those of the specification.
-/
namespace Tv.C16

/-- the instant of `x` (unit `a`) floored to unit `b`: what every conversion must produce -/
def floorTo (a b : U) (x : Int) : Int := x * a.mult / b.mult

theorem mult_pos (u : U) : 0 < u.mult := by cases u <;> decide

theorem mult_dvd {a b : U} (h : a.mult ≤ b.mult) : a.mult ∣ b.mult := by
  cases a <;> cases b <;> first | decide | exact absurd h (by decide)

/-- `p * x` outside, `x * p` inside: the shape in which `same_instant` states it -/
theorem mulDiv_bracket (p x : Int) {q : Int} (hq : 0 < q) :
    q * (x * p / q) ≤ p * x ∧ p * x < q * (x * p / q + 1) := by
  have h1 := Int.mul_ediv_add_emod (x * p) q
  have h2 := Int.emod_nonneg (x * p) (Int.ne_of_gt hq)
  have h3 := Int.emod_lt_of_pos (x * p) hq
  rw [Int.mul_add, Int.mul_one, Int.mul_comm p x]
  omega

theorem bracket_unique {q t y z : Int} (hq : 0 < q)
    (hy : q * y ≤ t ∧ t < q * (y + 1)) (hz : q * z ≤ t ∧ t < q * (z + 1)) : y = z := by
  have a : y < z + 1 := Int.lt_of_mul_lt_mul_left (Int.lt_of_le_of_lt hy.1 hz.2) (Int.le_of_lt hq)
  have b : z < y + 1 := Int.lt_of_mul_lt_mul_left (Int.lt_of_le_of_lt hz.1 hy.2) (Int.le_of_lt hq)
  omega

theorem mulDiv_mono {p q x y : Int} (hp : 0 < p) (hq : 0 < q) (h : x ≤ y) : x * p / q ≤ y * p / q :=
  Int.ediv_le_ediv hq (Int.mul_le_mul_of_nonneg_right h (Int.le_of_lt hp))

/-- going to a finer unit and back loses nothing -/
theorem mulDiv_back {p q : Int} (x : Int) (hq : 0 < q) (hp : 0 < p) (h : q ∣ p) :
    x * p / q * q / p = x := by
  obtain ⟨k, rfl⟩ := h
  rw [Int.mul_left_comm, Int.mul_ediv_cancel_left _ (Int.ne_of_gt hq), Int.mul_assoc, Int.mul_comm k q,
    Int.mul_ediv_cancel _ (Int.ne_of_gt hp)]

/-- the floor of a floor is the floor -/
theorem mulDiv_compose {q r : Int} (t : Int) (hq : 0 < q) (h : q ∣ r) : t / q * q / r = t / r := by
  obtain ⟨k, rfl⟩ := h
  rw [Int.mul_comm (t / q) q, Int.mul_ediv_mul_of_pos _ _ hq, Int.ediv_ediv_of_nonneg (Int.le_of_lt hq)]

/-- coarsening brings a value closer to zero -/
theorem mulDiv_between {p q x : Int} (hp : 0 < p) (hpq : p ≤ q) :
    (0 ≤ x → 0 ≤ x * p / q ∧ x * p / q ≤ x) ∧ (x ≤ 0 → x ≤ x * p / q ∧ x * p / q ≤ 0) := by
  have hq : 0 < q := Int.lt_of_lt_of_le hp hpq
  exact ⟨fun h => ⟨Int.ediv_nonneg (Int.mul_nonneg h (Int.le_of_lt hp)) (Int.le_of_lt hq),
      Int.ediv_le_of_le_mul hq (Int.mul_le_mul_of_nonneg_left hpq h)⟩,
    fun h => ⟨Int.le_ediv_of_mul_le hq (Int.mul_le_mul_of_nonpos_left h hpq),
      Int.ediv_nonpos_of_nonpos_of_neg (Int.mul_nonpos_of_nonpos_of_nonneg h (Int.le_of_lt hp)) hq⟩⟩

theorem lookup_unitTable {a b : U} (h : a ≠ b) :
    lookup unitTable a b =
      some (if a.mult ≤ b.mult then .divEuclid (b.mult / a.mult) else .mul (a.mult / b.mult)) := by
  cases a <;> cases b <;> first | rfl | exact absurd rfl h

theorem floorTo_finer {a b : U} (x : Int) (h : b.mult ≤ a.mult) :
    floorTo a b x = x * (a.mult / b.mult) :=
  Int.mul_ediv_assoc x (mult_dvd h)

theorem floorTo_coarser {a b : U} (x : Int) (h : a.mult ≤ b.mult) :
    floorTo a b x = x / (b.mult / a.mult) := by
  obtain ⟨k, hk⟩ := mult_dvd h
  rw [floorTo, hk, Int.mul_ediv_cancel_left _ (Int.ne_of_gt (mult_pos a)), Int.mul_comm x,
    Int.mul_ediv_mul_of_pos _ _ (mult_pos a)]

theorem floorTo_fits {a b : U} {x : Int} (hx : x ≠ NaT) (hr : InI64 x) (h : a.mult ≤ b.mult) :
    floorTo a b x ≠ NaT ∧ InI64 (floorTo a b x) := by
  have hb := @mulDiv_between a.mult b.mult x (mult_pos a) h
  simp only [floorTo, InI64, NaT, i64Min, i64Max] at *
  omega

theorem intoUnit_closed (a b : U) (x : Int) (hx : x ≠ NaT) (hr : InI64 x) :
    intoUnit a b x = if InI64 (floorTo a b x) then .ok (floorTo a b x) else .panic := by
  by_cases hab : a = b
  · subst hab
    rw [floorTo, Int.mul_ediv_cancel _ (Int.ne_of_gt (mult_pos a)), if_pos hr, intoUnit, if_pos rfl]
  · rw [intoUnit, if_neg hab, if_neg hx, lookup_unitTable hab]
    by_cases hle : a.mult ≤ b.mult
    · rw [if_pos hle, if_pos (floorTo_fits hx hr hle).2, floorTo_coarser x hle]; rfl
    · rw [if_neg hle, floorTo_finer x (Int.le_of_lt (Int.not_le.mp hle))]; rfl

theorem five_dvd_ratio {a b : U} (h : ¬ a.mult ≤ b.mult) : (5 : Int) ∣ a.mult / b.mult := by
  cases a <;> cases b <;> first | decide | exact absurd (by decide) h

theorem floorTo_ne_nat (a b : U) (x : Int) (hx : x ≠ NaT) (hr : InI64 x) : floorTo a b x ≠ NaT := by
  by_cases hle : a.mult ≤ b.mult
  · exact (floorTo_fits hx hr hle).1
  · -- a multiple of 5, which `-2^63` is not
    rw [floorTo_finer x (Int.le_of_lt (Int.not_le.mp hle))]
    intro h
    have : (5 : Int) ∣ NaT := h ▸ Int.dvd_mul_of_dvd_right (five_dvd_ratio hle)
    exact absurd this (by decide)

/-- what `into_unit` returns for a valid value is the floor, and is valid again -/
theorem intoUnit_ok {a b : U} {x y : Int} (hx : x ≠ NaT) (hr : InI64 x) (h : intoUnit a b x = .ok y) :
    y = floorTo a b x ∧ y ≠ NaT ∧ InI64 y := by
  rw [intoUnit_closed a b x hx hr] at h
  split at h
  · next hf => cases h; exact ⟨rfl, floorTo_ne_nat a b x hx hr, hf⟩
  · cases h

theorem nsPer_eq_mult (u : U) : Spec.nsPer u = u.mult := by cases u <;> decide

theorem unitsAt_eq (u : U) (t : Int) : Spec.unitsAt u t = t / u.mult := by
  unfold Spec.unitsAt
  rw [nsPer_eq_mult, Int.fdiv_eq_ediv_of_nonneg _ (Int.le_of_lt (mult_pos u))]

theorem valid64_iff (x : Int) : Spec.Valid64 x ↔ (x ≠ NaT ∧ InI64 x) := by
  simp only [Spec.Valid64, NaT, InI64, i64Min, i64Max]
  omega

/-- an overflow-checked `i64` result read as an outcome: the sentinel is NaT -/
theorem checked_toOutcome (v : Int) :
    (if InI64 v then Res.ok v else .panic).toOutcome = if v = NaT then .nat else Spec.mk64 v := by
  by_cases hs : v = NaT
  · subst hs; decide
  · by_cases hi : InI64 v <;> simp [Res.toOutcome, Spec.mk64, valid64_iff, hi, hs]

theorem tdMk_eq_spec (m i : Int) : (tdMk m i).toOutcomeTd = Spec.mkDur m i := by
  have e1 : Spec.DurOk i ↔ InDur i := by
    simp only [Spec.DurOk, InDur, durMaxNs, i64Max]; omega
  have e2 : Spec.Valid32 m ↔ (InI32 m ∧ m ≠ i32Min) := by
    simp only [Spec.Valid32, InI32, i32Min, i32Max]; omega
  have e3 : (m = -2 ^ 31) ↔ m = i32Min := by simp only [i32Min]; omega
  simp only [Spec.mkDur, e1, e2, e3, tdMk]
  -- the range predicates and the sentinel now coincide; the rest is the four-way case split of `mkDur`
  by_cases hi : InDur i
  · by_cases hm : m = i32Min
    · subst hm
      have : InI32 i32Min := by decide
      simp [hi, this, Res.toOutcomeTd, TD.isNat]
    · by_cases h32 : InI32 m
      · simp [hi, hm, h32, Res.toOutcomeTd, TD.isNat]
      · simp [hi, hm, h32, Res.toOutcomeTd]
  · simp [hi, Res.toOutcomeTd]

theorem tdNaT_isNat : tdNaT.isNat = true := by decide

theorem isNat_of_ne {x : Int} (hx : x ≠ NaT) : isNat x = false := by simp [isNat, hx]

end Tv.C16
