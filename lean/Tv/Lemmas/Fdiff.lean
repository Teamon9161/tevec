import Tv.Lemmas.Weighted
/-! fractional-difference coefficients: `fdiff_coef(d, w)` and the window sums of tevec/src/rolling.rs -/
namespace Tv
open Tv.Spec

theorem spec_gbinom_succ (d : Rat) (k : Nat) :
    Spec.gbinom d (k + 1) = Spec.gbinom d k * (d - (k : Rat)) / ((k : Rat) + 1) := by
  simp [Spec.gbinom, List.range_succ, List.foldl_append]

theorem gbinom_eq (d : Rat) (k : Nat) : Tv.gbinom d k = Spec.gbinom d k := by
  induction k with
  | zero => simp [Tv.gbinom, Spec.gbinom]
  | succ k ih => rw [Tv.gbinom, spec_gbinom_succ, ih]

/-- sign `(-1)^k` as the code / spec write it -/
def sgnPow (k : Nat) : Rat := if k % 2 = 0 then 1 else -1

theorem sgnPow_succ (k : Nat) : sgnPow (k + 1) = - sgnPow k := by
  unfold sgnPow
  rcases Nat.mod_two_eq_zero_or_one k with h | h
  · rw [if_pos h, if_neg (by rw [Nat.succ_mod_two_eq_one_iff.2 h]; decide)]
  · rw [if_pos (Nat.succ_mod_two_eq_zero_iff.2 h), if_neg (by rw [h]; decide), neg_neg]

/-- weight of the element with lag `k` -/
def fcoef (d : Rat) (k : Nat) : Rat := gbinom d k * sgnPow k

/-- the sign-flipping fold of `fdiff_coef` over `(0..k).rev()` started with sign `(-1)^k` -/
theorem fdiffCoef_fold (d : Rat) (k : Nat) (acc : List Rat) :
    ((List.range k).reverse.foldl
        (fun (a : Rat × List Rat) v => let s := -a.1; (s, a.2 ++ [gbinom d v * s])) (sgnPow k, acc)).2
      = acc ++ (List.range k).reverse.map (fcoef d) := by
  induction k generalizing acc with
  | zero => simp
  | succ k ih =>
    rw [List.range_succ, List.reverse_append, List.reverse_singleton, List.singleton_append,
      List.foldl_cons]
    have hs : -sgnPow (k + 1) = sgnPow k := by rw [sgnPow_succ]; ring
    simp only [hs]
    rw [ih]
    simp [fcoef, List.append_assoc]

/-- **`fdiff_coef(d, w)`**: the coefficient stored at position `j` is `(-1)^(w-1-j) C(d, w-1-j)` -/
theorem fdiffCoef_eq (d : Rat) (w : Nat) : fdiffCoef d w = (List.range w).reverse.map (fcoef d) := by
  unfold fdiffCoef
  have h0 : ((if w % 2 = 0 then 1 else -1 : Rat)) = sgnPow w := rfl
  rw [h0, fdiffCoef_fold]
  simp

/-- lag-indexed weighted sum: `Σ_j c(k+j) * r[j]` over a newest-first list -/
def lagSum (c : Nat → Rat) : Nat → List Rat → Rat
  | _, [] => 0
  | k, x :: r => c k * x + lagSum c (k + 1) r

theorem fdiffSum_eq_lagSum (d : Rat) (k : Nat) (r : List Rat) :
    fdiffSum d k r = lagSum (fcoef d) k r := by
  induction r generalizing k with
  | nil => rfl
  | cons x r ih =>
    simp only [fdiffSum, lagSum, ih, fcoef, sgnPow, gbinom_eq]
    ring

theorem lagSum_snoc (c : Nat → Rat) (k : Nat) (r : List Rat) (x : Rat) :
    lagSum c k (r ++ [x]) = lagSum c k r + c (k + r.length) * x := by
  induction r generalizing k with
  | nil => simp [lagSum]
  | cons y r ih =>
    simp only [List.cons_append, lagSum, ih, List.length_cons]
    have : k + 1 + r.length = k + (r.length + 1) := by rw [Nat.add_assoc, Nat.add_comm 1]
    rw [this]; ring

theorem dot_foldl (l cs : List Rat) (a : Rat) :
    ((l.zip cs).map fun p => p.1 * p.2).foldl (· + ·) a = a + dot l cs := by
  unfold dot
  induction (l.zip cs).map (fun p => p.1 * p.2) generalizing a with
  | nil => simp
  | cons y ys ih => simp only [List.foldl_cons]; rw [ih, ih (0 + y)]; ring

theorem dot_cons (x c : Rat) (l cs : List Rat) : dot (x :: l) (c :: cs) = x * c + dot l cs := by
  unfold dot
  simp only [List.zip_cons_cons, List.map_cons, List.foldl_cons]
  have := dot_foldl l cs (0 + x * c)
  unfold dot at this
  rw [this]; ring

/-- oldest-first list against the reversed-range coefficients: element `j` of `l` (length `n`)
meets `c (n-1-j)`, i.e. the newest element meets `c 0` -/
theorem dot_rev_range (c : Nat → Rat) (l : List Rat) :
    dot l ((List.range l.length).reverse.map c) = lagSum c 0 l.reverse := by
  induction l with
  | nil => simp [dot, lagSum]
  | cons x l ih =>
    rw [List.length_cons, List.range_succ, List.reverse_append, List.reverse_singleton,
      List.singleton_append, List.map_cons, dot_cons, ih, List.reverse_cons, lagSum_snoc]
    simp only [List.length_reverse, Nat.zero_add]
    ring

/-- newest-first list against the forward coefficients `c 0, c 1, ...` (possibly more
coefficients than elements: warm-up windows) -/
theorem dot_map_range' (c : Nat → Rat) (r : List Rat) (k m : Nat) (h : r.length ≤ m) :
    dot r ((List.range' k m).map c) = lagSum c k r := by
  induction r generalizing k m with
  | nil => simp [dot, lagSum]
  | cons x r ih =>
    obtain ⟨m', rfl⟩ : ∃ m', m = m' + 1 := ⟨m - 1, by simp at h; omega⟩
    rw [List.range'_succ, List.map_cons, dot_cons, ih (k + 1) m' (by simpa using h)]
    simp only [lagSum]; ring

theorem valid_map_some (l : List Rat) : valid (l.map some) = l := by
  induction l with
  | nil => rfl
  | cons x l ih => rw [List.map_cons, valid_cons_some, ih]

theorem all_valid_of_length (arr : List (Option Rat)) (h : (valid arr).length = arr.length) :
    arr = (valid arr).map some := by
  induction arr with
  | nil => rfl
  | cons a arr ih =>
    cases a with
    | none =>
      have hle : (valid arr).length ≤ arr.length := List.length_filterMap_le _ _
      rw [valid_cons_none, List.length_cons] at h
      omega
    | some q =>
      rw [valid_cons_some, List.length_cons, List.length_cons, Nat.add_right_cancel_iff] at h
      rw [valid_cons_some, List.map_cons, ← ih h]

theorem map_optMul_some (l cs : List Rat) :
    ((l.map some).zip cs).map optMul = (l.zip cs).map fun p => p.1 * p.2 := by
  induction l generalizing cs with
  | nil => simp
  | cons x l ih =>
    cases cs with
    | nil => simp
    | cons c cs => simp only [List.map_cons, List.zip_cons_cons]; rw [ih]; rfl

/-- **`ts_vfdiff` closure = spec** on one window slice of length ≤ `w` -/
theorem vfdiffEmit_spec (d : Rat) (w mp : Nat) (arr : List (Option Rat)) (hlen : arr.length ≤ w)
    (hmp : mp ≤ w) :
    vfdiffEmit d w mp arr = Spec.tsVfdiff d mp (valid arr) := by
  have hv : (valid arr).length ≤ arr.length := List.length_filterMap_le _ _
  by_cases hn : (valid arr).length = w
  · -- full, null-free window: every element is valid
    obtain ⟨l, rfl⟩ : ∃ l, arr = l.map some := ⟨valid arr, all_valid_of_length arr (by omega)⟩
    rw [valid_map_some] at hn ⊢
    unfold vfdiffEmit Spec.tsVfdiff Spec.masked
    simp only [valid_map_some, hn, if_true, ge_iff_le, hmp]
    congr 1
    rw [map_optMul_some]
    have := dot_foldl l (fdiffCoef d w) 0
    rw [this, fdiffCoef_eq, ← hn, dot_rev_range, fdiffSum_eq_lagSum]; ring
  · unfold vfdiffEmit Spec.tsVfdiff Spec.masked
    simp only [hn, if_false, ge_iff_le]
    split
    · congr 1
      rw [fdiffCoef_eq, dot_rev_range, fdiffSum_eq_lagSum]
    · rfl

/-- **`ts_fdiff` closure = spec** on a window slice of length ≤ `w`. `fdiffEmit` models the code
after the repair of finding F33 (DESIGN 8.3): before it, a slice shorter than `w` met the
coefficients from the oldest end. No witness of the earlier behaviour is kept. -/
theorem fdiffEmit_spec (d : Rat) (w : Nat) (arr : List Rat) (hlen : arr.length ≤ w) :
    fdiffEmit d w arr = Spec.tsFdiff d arr := by
  unfold fdiffEmit Spec.tsFdiff
  congr 1
  rw [fdiffCoef_eq, ← List.map_reverse, List.reverse_reverse, List.range_eq_range',
    dot_map_range' (fcoef d) arr.reverse 0 w (by simpa using hlen), fdiffSum_eq_lagSum]

end Tv
