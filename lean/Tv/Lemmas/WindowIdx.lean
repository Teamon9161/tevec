import Tv.Lemmas.Window
import Tv.Thm.C02
/-!
  The index-driven closures (`rolling_apply_idx`, `rolling2_apply_idx`) re-read their window through
  `uget`: the window ending at `i` is the list of what is read at the positions `i + 1 - W ..= i`.
-/
namespace Tv

theorem window_eq_map {α : Type} (zs : List α) (f : Nat → α) (i W : Nat) (hi : i < zs.length)
    (hf : ∀ k, k < zs.length → zs[k]? = some (f k)) :
    window zs i W = (List.range' (i + 1 - W) (i + 1 - (i + 1 - W))).map f := by
  apply List.ext_getElem?
  intro j
  rw [window, List.getElem?_drop, List.getElem?_map]
  by_cases hj : j < i + 1 - (i + 1 - W)
  · rw [List.getElem?_take_of_lt (by omega), hf _ (by omega), List.getElem?_range' hj, Nat.one_mul]; rfl
  · rw [List.getElem?_eq_none (by rw [List.length_take]; omega),
      List.getElem?_eq_none (by rw [List.length_range']; omega)]; rfl

end Tv
