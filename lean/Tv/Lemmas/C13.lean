import Tv.Model.C13MapOps
import Tv.Spec.C13
/-!
  Helper lemmas for C13: the list constructions the model is built from (front- and back-padded
  `zipWith`, the stateful `fillGo`) as positional maps `xs.mapIdx …`, the operand position `i - n`
  in natural numbers, `find?` skipping the positions that fail, and order facts about clipping.
  Core Lean only.
-/
namespace Tv.C13
open Spec

theorem opnd_in (xs : List α) (j : Int) (h0 : 0 ≤ j) (h1 : j < xs.length) :
    opnd xs j = some (xs[j.toNat]'((Int.toNat_lt h0).mpr h1)) := by
  unfold opnd
  rw [if_pos ⟨h0, h1⟩, List.getElem?_eq_getElem]

theorem opnd_out (xs : List α) (j : Int) (h : ¬ (0 ≤ j ∧ j < xs.length)) : opnd xs j = none :=
  if_neg h

theorem opnd_natCast (xs : List α) (j : Nat) : opnd xs (j : Int) = xs[j]? := by
  simp [opnd]

theorem opnd_lag_pos (xs : List α) (n : Int) (hn : 0 < n) (i : Nat) :
    opnd xs ((i : Int) - n) = if i < n.natAbs then none else xs[i - n.natAbs]? := by
  obtain ⟨k, rfl⟩ := Int.eq_ofNat_of_zero_le (Int.le_of_lt hn)
  rw [Int.natAbs_natCast]
  by_cases h : i < k
  · rw [if_pos h]
    exact opnd_out xs _ fun h' => Int.not_lt.mpr h'.1 (Int.sub_neg_of_lt (Int.ofNat_lt.mpr h))
  · rw [if_neg h, ← Int.ofNat_sub (Nat.le_of_not_lt h), opnd_natCast]

theorem opnd_lag_nonpos (xs : List α) (n : Int) (hn : n ≤ 0) (i : Nat) :
    opnd xs ((i : Int) - n) = xs[i + n.natAbs]? := by
  obtain ⟨k, rfl⟩ := Int.exists_eq_neg_ofNat hn
  rw [Int.natAbs_neg, Int.natAbs_natCast, Int.sub_neg, ← Int.natCast_add, opnd_natCast]

theorem opnd_lag_far (xs : List α) (n : Int) (hn : xs.length ≤ n.natAbs) (i : Nat) (hi : i < xs.length) :
    opnd xs ((i : Int) - n) = none := by
  by_cases h : 0 < n
  · rw [opnd_lag_pos xs n h, if_pos (Nat.lt_of_lt_of_le hi hn)]
  · rw [opnd_lag_nonpos xs n (Int.not_lt.mp h),
      List.getElem?_eq_none (Nat.le_trans hn (Nat.le_add_left _ _))]

/-! ### lagged maps

`shift`, `vdiff` and `vpct_change` share one skeleton: all fill when `|n| ≥ len`, otherwise a list `F`
padded in front for `n > 0` and a list `B` padded behind for `n ≤ 0`. Each computes, at position `i`,
a function `G` of the operand `x[i-n]` (if there is one) and of `x[i]`; `F` and `B` pair the series
with itself `|n|` places apart (`vdiff` literally, the other two after a list identity). -/

/-- `repeat_n(e, k).chain(take(len-k).zip(skip(k)).map(f))`: the first `k` places have no operand -/
theorem padFront_zipWith (G : Option α → α → γ) (e : γ) (he : ∀ b, G none b = e) (xs : List α) (k : Nat)
    (hk : k < xs.length) :
    List.replicate k e ++ List.zipWith (fun a b => G (some a) b) (xs.take (xs.length - k)) (xs.drop k) =
      xs.mapIdx fun i b => G (if i < k then none else xs[i - k]?) b := by
  apply List.ext_getElem
  · rw [List.length_append, List.length_replicate, List.length_zipWith, List.length_take, List.length_drop,
      Nat.min_eq_left (Nat.sub_le _ _), Nat.min_self, Nat.add_sub_cancel' (Nat.le_of_lt hk), List.length_mapIdx]
  · intro i _ hi
    rw [List.length_mapIdx] at hi
    rw [List.getElem_mapIdx]
    by_cases h : i < k
    · rw [List.getElem_append_left (by rw [List.length_replicate]; exact h), List.getElem_replicate, if_pos h, he]
    · rw [List.getElem_append_right (by rw [List.length_replicate]; exact Nat.le_of_not_lt h), if_neg h,
        List.getElem_zipWith, List.getElem_take, List.getElem_drop]
      simp only [List.length_replicate, Nat.add_sub_cancel' (Nat.le_of_not_lt h)]
      rw [List.getElem?_eq_getElem]

/-- `repeat_n(a₀, k).chain(it).zip(ys).map(f)` when `f a₀ _` is the constant `e`: the padding can be
chained in after the pairing instead -/
theorem zipWith_replicate_append (f : α → β → γ) (a₀ : α) (e : γ) (he : ∀ b, f a₀ b = e) (k : Nat)
    (l : List α) (ys : List β) (hk : k ≤ ys.length) :
    List.zipWith f (List.replicate k a₀ ++ l) ys = List.replicate k e ++ List.zipWith f l (ys.drop k) := by
  induction k generalizing ys with
  | zero => rfl
  | succ k ih =>
    cases ys with
    | nil => exact absurd hk (Nat.not_succ_le_zero k)
    | cons y ys =>
      rw [List.replicate_succ, List.cons_append, List.zipWith_cons_cons, he, ih ys (Nat.le_of_succ_le_succ hk)]
      rfl

/-- `skip(k).zip(self).map(f).chain(repeat_n(e, k))`: the last `k` places have no operand -/
theorem padBack_zipWith (G : Option α → α → γ) (e : γ) (he : ∀ b, G none b = e) (xs : List α) (k : Nat)
    (hk : k < xs.length) :
    List.zipWith (fun a b => G (some a) b) (xs.drop k) xs ++ List.replicate k e =
      xs.mapIdx fun i b => G xs[i + k]? b := by
  have hl : (List.zipWith (fun a b => G (some a) b) (xs.drop k) xs).length = xs.length - k := by
    rw [List.length_zipWith, List.length_drop, Nat.min_eq_left (Nat.sub_le _ _)]
  apply List.ext_getElem
  · rw [List.length_append, hl, List.length_replicate, Nat.sub_add_cancel (Nat.le_of_lt hk), List.length_mapIdx]
  · intro i _ hi
    rw [List.length_mapIdx] at hi
    rw [List.getElem_mapIdx]
    by_cases h : i + k < xs.length
    · rw [List.getElem_append_left (by rw [hl]; exact Nat.lt_sub_of_add_lt h), List.getElem_zipWith,
        List.getElem_drop, List.getElem?_eq_getElem h]
      simp only [Nat.add_comm k i]
    · rw [List.getElem_append_right (by rw [hl]; exact Nat.sub_le_of_le_add (Nat.le_of_not_lt h)),
        List.getElem_replicate, List.getElem?_eq_none (Nat.le_of_not_lt h), he]

/-- The skeleton is the positional map as soon as `F` and `B` are the padded pairings above. All
integer reasoning of the family is in here. -/
theorem lag_eq_mapIdx (G : Option α → α → γ) (e : γ) (he : ∀ b, G none b = e) (n : Int) (xs : List α)
    (F B : List γ)
    (hF : 0 < n → n.natAbs < xs.length → F = List.replicate n.natAbs e ++
      List.zipWith (fun a b => G (some a) b) (xs.take (xs.length - n.natAbs)) (xs.drop n.natAbs))
    (hB : n ≤ 0 → n.natAbs < xs.length →
      B = List.zipWith (fun a b => G (some a) b) (xs.drop n.natAbs) xs ++ List.replicate n.natAbs e) :
    (if xs.length ≤ n.natAbs then List.replicate xs.length e else if n > 0 then F else B) =
      xs.mapIdx fun i b => G (opnd xs ((i : Int) - n)) b := by
  by_cases h1 : xs.length ≤ n.natAbs
  · rw [if_pos h1]
    exact (List.mapIdx_eq_replicate_iff.mpr fun i hi => by rw [opnd_lag_far xs n h1 i hi, he]).symm
  · rw [if_neg h1]
    have hk := Nat.lt_of_not_le h1
    by_cases h2 : n > 0
    · rw [if_pos h2, hF h2 hk, padFront_zipWith G e he xs _ hk]
      congr
      funext i b
      rw [opnd_lag_pos xs n h2]
    · rw [if_neg h2, hB (Int.not_lt.mp h2) hk, padBack_zipWith G e he xs _ hk]
      congr
      funext i b
      rw [opnd_lag_nonpos xs n (Int.not_lt.mp h2)]

/-- pairing and keeping the left item returns the left list (`shift` as an instance of the lag
skeleton) -/
theorem zipWith_left (l : List α) (r : List β) (h : l.length ≤ r.length) :
    List.zipWith (fun a _ => a) l r = l := by
  induction l generalizing r with
  | nil => rfl
  | cons a l ih =>
    cases r with
    | nil => exact absurd h (Nat.not_succ_le_zero _)
    | cons b r => rw [List.zipWith_cons_cons, ih r (Nat.le_of_succ_le_succ h)]

theorem getElem?_mapIdx_of_lt (f : Nat → α → γ) (xs : List α) (i : Nat) (hi : i < xs.length) :
    (xs.mapIdx f)[i]? = some (f i xs[i]) := by
  rw [List.getElem?_mapIdx, List.getElem?_eq_getElem hi, Option.map_some]

theorem vshift_eq_shift (n : Int) (value : Option (Option β)) (xs : List (Option β)) :
    vshift n value xs = shift n (value.getD none) xs := rfl

/-- The closure started with `last_valid = lv`: an unmasked element passes; a masked one becomes the
last unmasked element before it, else `lv`, else the default. -/
theorem fillGo_eq_mapIdx (mask : α → Bool) (d : α) (lv : Option α) (xs : List α) :
    fillGo mask d lv xs = xs.mapIdx fun i x =>
      if mask x then ((((xs.take i).reverse.find? fun y => !mask y).or lv).getD d) else x := by
  induction xs generalizing lv with
  | nil => rfl
  | cons x xs ih =>
    unfold fillGo
    -- At position `i + 1` of `x :: xs` the reversed prefix is `(xs.take i).reverse ++ [x]`: the search
    -- finds something in the tail's prefix, or falls back on `x` if unmasked, else on `lv` (the `.or lv`).
    cases hm : mask x <;> cases lv <;> simp [hm, ih, List.mapIdx_cons, List.find?_append]

theorem find?_reverse_take_succ (p : α → Bool) (xs : List α) (i : Nat) (hi : i < xs.length) :
    (xs.take (i + 1)).reverse.find? p = if p xs[i] then some xs[i] else (xs.take i).reverse.find? p := by
  rw [List.take_succ_eq_append_getElem hi, List.reverse_append, List.reverse_singleton, List.singleton_append,
    List.find?_cons]
  cases p xs[i] <;> rfl

theorem find?_reverse_take_skip (p : α → Bool) (xs : List α) (j i : Nat) (hji : j ≤ i) (hi : i ≤ xs.length)
    (hnp : ∀ k (_ : j ≤ k) (h2 : k < i), p (xs[k]'(Nat.lt_of_lt_of_le h2 hi)) = false) :
    (xs.take i).reverse.find? p = (xs.take j).reverse.find? p := by
  induction hji with
  | refl => rfl
  | @step i hji ih =>
    rw [find?_reverse_take_succ p xs i hi,
      if_neg (by rw [hnp i hji (Nat.lt_succ_self i)]; exact Bool.false_ne_true)]
    exact ih (Nat.le_of_lt hi) fun k h1 h2 => hnp k h1 (Nat.lt_succ_of_lt h2)

theorem find?_drop_skip (p : α → Bool) (xs : List α) (i j : Nat) (hij : i ≤ j) (hj : j ≤ xs.length)
    (hnp : ∀ k (_ : i ≤ k) (h2 : k < j), p (xs[k]'(Nat.lt_of_lt_of_le h2 hj)) = false) :
    (xs.drop i).find? p = (xs.drop j).find? p := by
  induction hij with
  | refl => rfl
  | @step j hij ih =>
    rw [ih (Nat.le_of_lt hj) fun k h1 h2 => hnp k h1 (Nat.lt_succ_of_lt h2), List.drop_eq_getElem_cons hj,
      List.find?_cons_of_neg (by rw [hnp j hij (Nat.lt_succ_self j)]; exact Bool.false_ne_true)]

def Ordered (lo hi : Option Rat) : Prop := ∀ l h, lo = some l → hi = some h → l ≤ h

theorem clip1_inside (lo hi : Option Rat) (x : Rat)
    (h1 : ∀ l, lo = some l → l ≤ x) (h2 : ∀ h, hi = some h → x ≤ h) : clip1 lo hi x = x := by
  unfold clip1
  grind

theorem clip1_below (lo hi : Option Rat) (x : Rat) (hb : Ordered lo hi) (l : Rat) (hl : lo = some l)
    (hx : x < l) : clip1 lo hi x = l := by
  subst hl
  rcases hi with _ | h
  · exact if_pos hx
  · have hle := hb l h rfl rfl
    simp only [clip1, if_pos hle, if_neg (Rat.not_lt.mpr (Rat.le_trans (Rat.le_of_lt hx) hle)), if_pos hx]

theorem clip1_above (lo hi : Option Rat) (x : Rat) (hb : Ordered lo hi) (h : Rat) (hh : hi = some h)
    (hx : h < x) : clip1 lo hi x = h := by
  subst hh
  rcases lo with _ | l
  · exact if_pos hx
  · have hle := hb l h rfl rfl
    simp only [clip1, if_pos hle, if_pos hx, if_neg (Rat.not_lt.mpr hle)]

/-- the result is the bound `x` violates, or `x` itself; either way it lies inside -/
theorem clip1_within (lo hi : Option Rat) (x : Rat) (hb : Ordered lo hi) :
    (∀ l, lo = some l → l ≤ clip1 lo hi x) ∧ (∀ h, hi = some h → clip1 lo hi x ≤ h) := by
  have := clip1_below lo hi x hb
  have := clip1_above lo hi x hb
  have := clip1_inside lo hi x
  unfold Ordered at hb
  grind

theorem clip1_idem (lo hi : Option Rat) (x : Rat) (hb : Ordered lo hi) :
    clip1 lo hi (clip1 lo hi x) = clip1 lo hi x :=
  clip1_inside lo hi _ (clip1_within lo hi x hb).1 (clip1_within lo hi x hb).2

theorem rabs_eq_absq (q : Rat) : rabs q = absq q := by
  unfold rabs absq; grind

theorem rabs_cases (q : Rat) : (0 ≤ q ∧ rabs q = q) ∨ (q < 0 ∧ rabs q = -q) := by
  by_cases h : q < 0
  · exact .inr ⟨h, if_pos h⟩
  · exact .inl ⟨Rat.not_lt.mp h, if_neg h⟩

theorem rabs_nonneg (q : Rat) : 0 ≤ rabs q := by
  rcases rabs_cases q with ⟨h, e⟩ | ⟨h, e⟩
  · rw [e]; exact h
  · have h' := Rat.neg_le_neg (Rat.le_of_lt h)
    rwa [Rat.neg_zero, ← e] at h'

end Tv.C13
