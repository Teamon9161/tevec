import Tv.Model.C03Norm
import Tv.Spec.C03Order
import Tv.Thm.C02
import Mathlib.Tactic.Ring
import Mathlib.Tactic.FieldSimp
import Mathlib.Tactic.NormNum
/-!
  `ts_vzscore`: the power-sum closure is an instance of the generic refinement theorem
  (`C02.run_applyCalls`, abstraction relation `ZInv`); the one-pass variance `sum2/n - (sum/n)²` equals the centred sum of
  squares divided by `n`.
-/
namespace Tv.C03
open Tv

theorem vals_append (a b : List (Option Rat)) : Spec.vals (a ++ b) = Spec.vals a ++ Spec.vals b := by
  simp [Spec.vals, List.filterMap_append]

theorem sum_append (a b : List Rat) : Spec.sum (a ++ b) = Spec.sum a + Spec.sum b := by
  induction a with
  | nil => simp [Spec.sum]
  | cons x r ih =>
    simp only [Spec.sum, List.cons_append, List.foldr_cons] at ih ⊢
    rw [ih]; ring

def sumsq (l : List Rat) : Rat := Spec.sum (l.map fun x => x * x)

theorem css_expand (c : Rat) (l : List Rat) :
    Spec.css c l = sumsq l - 2 * c * Spec.sum l + (l.length : Rat) * c * c := by
  induction l with
  | nil => simp [Spec.css, sumsq, Spec.sum]
  | cons x xs ih =>
    simp only [Spec.css, sumsq, Spec.sum, List.map_cons, List.foldr_cons, List.length_cons] at *
    rw [ih]; push_cast; ring

theorem pvar_closed (l : List Rat) (hn : 1 ≤ l.length) :
    sumsq l / (l.length : Rat) - Spec.sum l / (l.length : Rat) * (Spec.sum l / (l.length : Rat))
      = Spec.css (Spec.mean l) l / (l.length : Rat) := by
  have hn0 : (l.length : Rat) ≠ 0 := Nat.cast_ne_zero.2 (Nat.pos_iff_ne_zero.1 hn)
  rw [css_expand]
  unfold Spec.mean
  field_simp
  ring

/-- abstraction relation: the state holds the power sums of the non-null window contents
and (when the window is non-empty) its most recent element -/
def ZInv (s : ZSt) (q : List (Option Rat)) : Prop :=
  s.n = (Spec.vals q).length ∧ s.sum = Spec.sum (Spec.vals q) ∧ s.sum2 = sumsq (Spec.vals q) ∧
  (∀ y, q.getLast? = some y → s.last = y)

theorem zinv_add (s : ZSt) (q : List (Option Rat)) (v : Option Rat) (h : ZInv s q) :
    ZInv (s.add v) (q ++ [v]) := by
  obtain ⟨h1, h2, h3, _⟩ := h
  cases v with
  | none =>
    refine ⟨?_, ?_, ?_, ?_⟩ <;> simp [ZSt.add, Spec.vals, h1, h2, h3]
  | some x =>
    have hv : Spec.vals (q ++ [some x]) = Spec.vals q ++ [x] := by
      rw [vals_append]; simp [Spec.vals]
    refine ⟨?_, ?_, ?_, ?_⟩
    · rw [hv]; simp [ZSt.add, h1]
    · rw [hv, sum_append]; simp [ZSt.add, h2, Spec.sum]
    · rw [hv]; unfold sumsq at h3 ⊢; rw [List.map_append, sum_append]; simp [ZSt.add, h3, Spec.sum]
    · intro y hy; simp at hy; simp [ZSt.add, hy]

theorem zinv_remove (s : ZSt) (x : Option Rat) (q : List (Option Rat)) (h : ZInv s (x :: q)) :
    ZInv (s.remove x) q := by
  obtain ⟨h1, h2, h3, h4⟩ := h
  have hlast : ∀ y, q.getLast? = some y → s.last = y := by
    intro y hy
    apply h4
    cases q with
    | nil => cases hy
    | cons a r => rw [List.getLast?_cons_cons]; exact hy
  cases x with
  | none =>
    refine ⟨?_, ?_, ?_, hlast⟩
    · simpa [ZSt.remove, Spec.vals] using h1
    · simpa [ZSt.remove, Spec.vals] using h2
    · simpa [ZSt.remove, Spec.vals] using h3
  | some v =>
    have hv : Spec.vals (some v :: q) = v :: Spec.vals q := by simp [Spec.vals]
    rw [hv] at h1 h2 h3
    refine ⟨?_, ?_, ?_, hlast⟩
    · simp [ZSt.remove, h1]
    · simp only [ZSt.remove, h2, Spec.sum, List.foldr_cons]; ring
    · simp only [ZSt.remove, h3, sumsq, Spec.sum, List.map_cons, List.foldr_cons]; ring

theorem eps_pos : (0 : Rat) < EPS := by norm_num [EPS]

theorem zinv_emit (mp : Nat) (s : ZSt) (q : List (Option Rat)) (h : ZInv s q) :
    zEmit mp s = Spec.tsZscore mp q := by
  obtain ⟨h1, h2, h3, h4⟩ := h
  unfold Spec.tsZscore
  cases hq : q.getLast? with
  | none =>
    have : q = [] := by
      cases q with
      | nil => rfl
      | cons a r => simp [List.getLast?_cons] at hq
    subst this
    simp only [Spec.vals, List.filterMap_nil, List.length_nil, Spec.sum, List.foldr_nil, sumsq,
      List.map_nil] at h1 h2 h3
    unfold zEmit
    cases s.last with
    | none => rfl
    | some v =>
      simp only [h1, h2, h3]
      have : ¬ ((0 : Rat) / ((0 : Nat) : Rat) - 0 / ((0 : Nat) : Rat) * (0 / ((0 : Nat) : Rat)) > EPS) := by
        have := eps_pos
        simp only [Nat.cast_zero, div_zero, mul_zero, sub_zero, gt_iff_lt, not_lt]
        exact le_of_lt this
      simp only [this, if_false]
      split <;> rfl
  | some y =>
    have hl := h4 y hq
    cases y with
    | none => simp [zEmit, hl]
    | some x =>
      have hx : x ∈ Spec.vals q := by
        have : some x ∈ q := List.mem_of_getLast? hq
        exact List.mem_filterMap.2 ⟨some x, this, rfl⟩
      have hn : 1 ≤ (Spec.vals q).length := List.length_pos_of_mem hx
      have hn0 : ((Spec.vals q).length : Rat) ≠ 0 := Nat.cast_ne_zero.2 (Nat.pos_iff_ne_zero.1 hn)
      have hvar := pvar_closed (Spec.vals q) hn
      simp only [zEmit, hl, h1, h2, h3, Spec.masked]
      have hmean : Spec.sum (Spec.vals q) / ((Spec.vals q).length : Rat) = Spec.mean (Spec.vals q) := rfl
      rw [hvar, hmean]
      have hE : Spec.EPS = EPS := rfl
      have hS : Spec.sgn = sgn := rfl
      simp only [hE, hS]
      split
      · by_cases hc : Spec.css (Spec.mean (Spec.vals q)) (Spec.vals q) / ((Spec.vals q).length : Rat) ≤ EPS
        · have : ¬ (Spec.css (Spec.mean (Spec.vals q)) (Spec.vals q) / ((Spec.vals q).length : Rat) > EPS) :=
            not_lt.mpr hc
          rw [if_neg this, if_pos hc]
        · have : Spec.css (Spec.mean (Spec.vals q)) (Spec.vals q) / ((Spec.vals q).length : Rat) > EPS :=
            not_le.mp hc
          rw [if_pos this, if_neg hc]
          by_cases h1' : (Spec.vals q).length = 1
          · rw [if_pos (sub_eq_zero.2 (Nat.cast_eq_one.2 h1')), if_pos h1']
          · rw [if_neg fun hz => h1' (Nat.cast_eq_one.1 (sub_eq_zero.1 hz)), if_neg h1']
            congr 2
            rw [div_mul_cancel₀ _ hn0]
      · rfl

theorem tsVzscore_exact (sh : Shape) (xs : List (Option Rat)) (w : Nat) (mp : Option Nat)
    (hw : 1 ≤ w) :
    tsVzscore sh xs w mp =
      (List.range xs.length).map fun i => Spec.tsZscore (normMp mp w) (window xs i w) :=
  C02.run_applyCalls (zRoll (normMp mp w)) ZInv _ (by simp [zRoll, ZInv, Spec.vals, Spec.sum, sumsq])
    zinv_add zinv_remove (zinv_emit _) sh xs w hw

end Tv.C03
