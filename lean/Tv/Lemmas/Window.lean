import Tv.Model.Basic
/-! List facts about `valid`, `window` and `pre`, and the generic refinement of a rolling closure
(`run_refines_from`, by induction over the positions); `C02.run_applyCalls` puts it under the drivers
of either shape, which is the form the closure theorems use. -/
namespace Tv

theorem valid_cons_some (q : List (Option α)) (v : α) : valid (some v :: q) = v :: valid q := rfl
theorem valid_cons_none (q : List (Option α)) : valid (none :: q) = valid q := rfl
theorem valid_append_some (q : List (Option α)) (v : α) : valid (q ++ [some v]) = valid q ++ [v] :=
  List.filterMap_append
theorem valid_append_none (q : List (Option α)) : valid (q ++ [none]) = valid q :=
  List.filterMap_append.trans (List.append_nil _)

theorem succ_sub_eq_sub_pred {i w : Nat} (hw : 1 ≤ w) : i + 1 - w = i - (w - 1) := by
  rw [← Nat.sub_add_cancel hw, Nat.add_sub_add_right, Nat.add_sub_cancel]

theorem window_eq_pre_snoc (xs : List α) (i w : Nat) (hw : 1 ≤ w) (hi : i < xs.length) :
    window xs i w = pre xs i w ++ [xs[i]] := by
  unfold window pre
  rw [List.take_succ_eq_append_getElem hi, succ_sub_eq_sub_pred hw, List.drop_append_of_le_length]
  rw [List.length_take, Nat.min_eq_left (Nat.le_of_lt hi)]
  exact Nat.sub_le _ _

theorem pre_succ_of_lt (xs : List α) (i w : Nat) (h : i < w - 1) :
    pre xs (i+1) w = window xs i w := by
  unfold pre window
  rw [Nat.sub_eq_zero_of_le (Nat.succ_le_of_lt h),
    Nat.sub_eq_zero_of_le (Nat.le_trans (Nat.succ_le_of_lt h) (Nat.sub_le w 1))]

theorem window_eq_cons_pre_succ (xs : List α) (i w : Nat) (hw : 1 ≤ w) (hi : i < xs.length)
    (h : w - 1 ≤ i) : window xs i w = xs[i-(w-1)] :: pre xs (i+1) w := by
  unfold pre window
  have hlt : i - (w-1) < (xs.take (i+1)).length := by
    rw [List.length_take, Nat.min_eq_left (Nat.succ_le_of_lt hi)]
    exact Nat.lt_succ_of_le (Nat.sub_le _ _)
  rw [succ_sub_eq_sub_pred hw, Nat.sub_add_comm h, List.drop_eq_getElem_cons hlt, List.getElem_take]

theorem window_clamp (xs : List α) (i w : Nat) (hi : i < xs.length) :
    window xs i (min w xs.length) = window xs i w := by
  unfold window
  rcases Nat.le_total w xs.length with h | h
  · rw [Nat.min_eq_left h]
  · rw [Nat.min_eq_right h, Nat.sub_eq_zero_of_le (Nat.succ_le_of_lt hi),
      Nat.sub_eq_zero_of_le (Nat.le_trans (Nat.succ_le_of_lt hi) h)]

/-- the element removed at position `i` (specification); `none` during the warm-up `i < w - 1`,
and also when the start `i - (w - 1)` is past the end of `xs` -/
def callAt (xs : List α) (w i : Nat) : Option α := if w - 1 ≤ i then xs[i-(w-1)]? else none

theorem callAt_eq_bind (xs : List α) (w i : Nat) : callAt xs w i = (startAt w i).bind (xs[·]?) := by
  unfold callAt startAt
  split <;> rfl

/-- the callback arguments, positions `a, a+1, ..., a+k-1` -/
def callsFrom (xs : List α) (w a k : Nat) : List (Option α × α) :=
  (List.range' a k).filterMap (fun i => xs[i]?.map (fun v => (callAt xs w i, v)))

/-- **Generic refinement.** A closure whose state abstracts the FIFO of the current window
contents emits, at every position, a function of exactly the current window: started at any
position `a` in a state that abstracts the `w - 1` elements before `a`. -/
theorem run_refines_from {σ α β : Type} (r : Roll σ α β) (Inv : σ → List α → Prop) (F : List α → β)
    (hadd : ∀ s q v, Inv s q → Inv (r.add s v) (q ++ [v]))
    (hrem : ∀ s x q, Inv s (x :: q) → Inv (r.remove s x) q)
    (hemit : ∀ s q, Inv s q → r.emit s = F q)
    (xs : List α) (w : Nat) (hw : 1 ≤ w) :
    ∀ (k a : Nat) (s : σ), a + k = xs.length → Inv s (pre xs a w) →
      r.run s (callsFrom xs w a k) = (List.range' a k).map (fun i => F (window xs i w)) := by
  intro k
  induction k with
  | zero => intro a s _ _; rfl
  | succ k ih =>
    intro a s hk hinv
    have hi : a < xs.length := hk ▸ Nat.lt_add_of_pos_right (Nat.succ_pos k)
    -- after the add the state abstracts the window ending at `a`
    have hinv1 : Inv (r.add s xs[a]) (window xs a w) := by
      rw [window_eq_pre_snoc xs a w hw hi]; exact hadd _ _ _ hinv
    unfold callsFrom
    rw [List.range'_succ, List.filterMap_cons, List.getElem?_eq_getElem hi, Option.map_some, List.map_cons]
    show r.emit _ :: r.run _ (callsFrom xs w (a + 1) k) = _
    rw [hemit _ _ hinv1]
    refine congrArg _ (ih (a + 1) _ (by rw [Nat.add_right_comm, ← hk]; rfl) ?_)
    -- the remove (if the window is full) leaves the `w - 1` elements before `a + 1`
    unfold callAt
    by_cases hc : w - 1 ≤ a
    · rw [if_pos hc, List.getElem?_eq_getElem (Nat.lt_of_le_of_lt (Nat.sub_le _ _) hi)]
      exact hrem _ _ _ (window_eq_cons_pre_succ xs a w hw hi hc ▸ hinv1)
    · rw [if_neg hc, pre_succ_of_lt xs a w (Nat.lt_of_not_le hc)]
      exact hinv1

/-- `run_refines_from` for the last `k` positions -/
theorem run_refines {σ α β : Type} (r : Roll σ α β) (Inv : σ → List α → Prop) (F : List α → β)
    (hadd : ∀ s q v, Inv s q → Inv (r.add s v) (q ++ [v]))
    (hrem : ∀ s x q, Inv s (x :: q) → Inv (r.remove s x) q)
    (hemit : ∀ s q, Inv s q → r.emit s = F q)
    (xs : List α) (w : Nat) (hw : 1 ≤ w) :
    ∀ (k : Nat) (s : σ), k ≤ xs.length → Inv s (pre xs (xs.length - k) w) →
      r.run s (callsFrom xs w (xs.length - k) k)
        = (List.range' (xs.length - k) k).map (fun i => F (window xs i w)) :=
  fun k s hk hinv =>
    run_refines_from r Inv F hadd hrem hemit xs w hw k _ s (Nat.sub_add_cancel hk) hinv

/-- `run_refines_from` for the whole series from the initial state -/
theorem run_refines_all {σ α β : Type} (r : Roll σ α β) (Inv : σ → List α → Prop) (F : List α → β)
    (hinit : Inv r.init [])
    (hadd : ∀ s q v, Inv s q → Inv (r.add s v) (q ++ [v]))
    (hrem : ∀ s x q, Inv s (x :: q) → Inv (r.remove s x) q)
    (hemit : ∀ s q, Inv s q → r.emit s = F q)
    (xs : List α) (w : Nat) (hw : 1 ≤ w) :
    r.run r.init (callsFrom xs w 0 xs.length)
      = (List.range xs.length).map (fun i => F (window xs i w)) := by
  rw [List.range_eq_range']
  exact run_refines_from r Inv F hadd hrem hemit xs w hw xs.length 0 r.init (Nat.zero_add _)
    (by rw [pre, List.take_zero, List.drop_nil]; exact hinit)

/-- the output of a run does not depend on what the last call reports as removed; so the one place
where the two driver shapes differ (`C02.start_spec`: the final position when `w > len`) cannot be
observed through a `Roll` -/
theorem run_last_rm_irrelevant {σ α β : Type} (r : Roll σ α β) (s : σ)
    (cs : List (Option α × α)) (rm rm' : Option α) (v : α) :
    r.run s (cs ++ [(rm, v)]) = r.run s (cs ++ [(rm', v)]) := by
  induction cs generalizing s with
  | nil => simp [Roll.run, Roll.step]
  | cons c cs ih => simp only [List.cons_append, Roll.run]; rw [ih]

theorem run_length {σ α β : Type} (r : Roll σ α β) (s : σ) (cs : List (Option α × α)) :
    (r.run s cs).length = cs.length := by
  induction cs generalizing s with
  | nil => simp [Roll.run]
  | cons c cs ih => simp [Roll.run, ih]

theorem window_length_le (xs : List α) (i w : Nat) : (window xs i w).length ≤ w := by
  rw [window, List.length_drop, List.length_take]; omega

end Tv
