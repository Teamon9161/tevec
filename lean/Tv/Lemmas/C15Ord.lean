import Tv.Lemmas.C15
/-!
  C15 — order lemmas: a comparator on inner values that is a total order on the valid ones,
  lifted to a nullable carrier with nulls last, is a total preorder (and an order up to equality).
-/
namespace Tv.C15

/-- `partial_cmp` restricted to the valid (non-null, well-typed) inner values is a total order -/
structure POrder (V : ι → Prop) (pcmp : ι → ι → Option Ordering) : Prop where
  total : ∀ a b, V a → V b → ∃ o, pcmp a b = some o
  swap : ∀ a b o, V a → V b → pcmp a b = some o → pcmp b a = some o.swap
  eq_iff : ∀ a b, V a → V b → (pcmp a b = some .eq ↔ a = b)
  lt_trans : ∀ a b c, V a → V b → V c → pcmp a b = some .lt → pcmp b c = some .lt → pcmp a c = some .lt

/-- a total comparator that is a linear order on `V` -/
structure COrder (V : ι → Prop) (k : ι → ι → Ordering) : Prop where
  swap : ∀ a b, V a → V b → k b a = (k a b).swap
  eq_iff : ∀ a b, V a → V b → (k a b = .eq ↔ a = b)
  le_trans : ∀ a b c, V a → V b → V c → k a b ≠ .gt → k b c ≠ .gt → k a c ≠ .gt

/-- the comparator obtained from `pcmp` with any fallback for incomparable arguments -/
def ofP (pcmp : ι → ι → Option Ordering) (fb : ι → Ordering) (a b : ι) : Ordering :=
  match pcmp a b with
  | some o => o
  | none => fb a

theorem POrder.toC {V : ι → Prop} {pcmp : ι → ι → Option Ordering} (h : POrder V pcmp) (fb : ι → Ordering) :
    COrder V (ofP pcmp fb) where
  swap a b ha hb := by
    obtain ⟨o, ho⟩ := h.total a b ha hb
    simp only [ofP, ho, h.swap a b o ha hb ho]
  eq_iff a b ha hb := by
    obtain ⟨o, ho⟩ := h.total a b ha hb
    rw [← h.eq_iff a b ha hb]
    simp only [ofP, ho, Option.some.injEq]
  le_trans a b c ha hb hc h1 h2 := by
    obtain ⟨o1, ho1⟩ := h.total a b ha hb
    obtain ⟨o2, ho2⟩ := h.total b c hb hc
    simp only [ofP, ho1, ho2] at h1 h2
    cases o1 with
    | gt => exact absurd rfl h1
    | eq =>
      have := (h.eq_iff a b ha hb).1 ho1; subst this
      simpa only [ofP, ho2] using h2
    | lt =>
      cases o2 with
      | gt => exact absurd rfl h2
      | eq =>
        have := (h.eq_iff b c hb hc).1 ho2; subst this
        simp [ofP, ho1]
      | lt => simp [ofP, h.lt_trans a b c ha hb hc ho1 ho2]

theorem COrder.rev {V : ι → Prop} {k : ι → ι → Ordering} (h : COrder V k) :
    COrder V (fun a b => (k a b).swap) where
  swap a b ha hb := by rw [h.swap a b ha hb]
  eq_iff a b ha hb := by
    rw [← h.eq_iff a b ha hb]
    cases k a b <;> simp [Ordering.swap]
  le_trans a b c ha hb hc h1 h2 := by
    have e1 := h.swap a b ha hb
    have e2 := h.swap b c hb hc
    have e3 := h.swap a c ha hc
    have := h.le_trans c b a hc hb ha (by rw [e2]; exact h2) (by rw [e1]; exact h1)
    rw [e3] at this; exact this

/-- lift to the nullable carrier: nulls are greater than everything and equal to each other -/
def cmpNL (k : ι → ι → Ordering) : Option ι → Option ι → Ordering
  | some a, some b => k a b
  | none, none => .eq
  | none, some _ => .gt
  | some _, none => .lt

theorem cmpNL_swap {V : ι → Prop} {k : ι → ι → Ordering} (h : COrder V k) (a b : Option ι)
    (ha : ∀ v, a = some v → V v) (hb : ∀ v, b = some v → V v) : cmpNL k b a = (cmpNL k a b).swap := by
  cases a <;> cases b <;> first | rfl | exact h.swap _ _ (ha _ rfl) (hb _ rfl)

theorem cmpNL_eq_iff {V : ι → Prop} {k : ι → ι → Ordering} (h : COrder V k) (a b : Option ι)
    (ha : ∀ v, a = some v → V v) (hb : ∀ v, b = some v → V v) : cmpNL k a b = .eq ↔ a = b := by
  cases a <;> cases b <;> simp [cmpNL]
  exact h.eq_iff _ _ (ha _ rfl) (hb _ rfl)

theorem cmpNL_le_trans {V : ι → Prop} {k : ι → ι → Ordering} (h : COrder V k) (a b c : Option ι)
    (ha : ∀ v, a = some v → V v) (hb : ∀ v, b = some v → V v) (hc : ∀ v, c = some v → V v)
    (h1 : cmpNL k a b ≠ .gt) (h2 : cmpNL k b c ≠ .gt) : cmpNL k a c ≠ .gt := by
  cases a <;> cases b <;> cases c <;> simp_all [cmpNL]
  exact h.le_trans _ _ _ ha hb hc h1 h2

theorem cmpNL_nulls_last (k : ι → ι → Ordering) :
    ∀ {a b : Option ι}, a.isNone = true → b.isNone = false → cmpNL k a b = .gt ∧ cmpNL k b a = .lt
  | none, some _, _, _ => ⟨rfl, rfl⟩

/-- `sort_cmp` is the nulls-last lift of `partial_cmp` (with its NaN fallback) along `as_opt` -/
theorem sortCmp_eq_cmpNL (R : NullRepr α ι) (innerNone : ι → Bool) (pcmp : ι → ι → Option Ordering)
    (a b : α) :
    sortCmp R innerNone pcmp a b =
      cmpNL (ofP pcmp fun v => if innerNone v then .gt else .lt) (R.asOpt a) (R.asOpt b) := by
  unfold sortCmp
  cases R.asOpt a <;> cases R.asOpt b <;> rfl

/-- `sort_cmp_rev` is the nulls-last lift of the reversed `partial_cmp` -/
theorem sortCmpRev_eq_cmpNL (R : NullRepr α ι) (innerNone : ι → Bool) (pcmp : ι → ι → Option Ordering)
    (a b : α) :
    sortCmpRev R innerNone pcmp a b =
      cmpNL (fun x y => (ofP pcmp (fun v => if innerNone v then .lt else .gt) x y).swap) (R.asOpt a) (R.asOpt b) := by
  unfold sortCmpRev
  cases R.asOpt a <;> cases R.asOpt b <;> rfl

/-- on valid arguments the fallback of `ofP` is irrelevant -/
theorem ofP_valid {V : ι → Prop} {pcmp : ι → ι → Option Ordering} (h : POrder V pcmp)
    (fb fb' : ι → Ordering) (a b : ι) (ha : V a) (hb : V b) : ofP pcmp fb a b = ofP pcmp fb' a b := by
  obtain ⟨o, ho⟩ := h.total a b ha hb
  simp [ofP, ho]

theorem POrder.ofOrd {β : Type} [Ord β] [Std.TransOrd β] [Std.LawfulEqOrd β] :
    POrder (fun _ : β => True) (fun a b => some (compare a b)) where
  total a b _ _ := ⟨_, rfl⟩
  swap a b o _ _ h := by
    simp only [Option.some.injEq] at h ⊢
    rw [← h, Std.OrientedOrd.eq_swap (a := b) (b := a)]
  eq_iff a b _ _ := by
    simp only [Option.some.injEq]
    exact Std.LawfulEqOrd.compare_eq_iff_eq
  lt_trans a b c _ _ _ h1 h2 := by
    simp only [Option.some.injEq] at h1 h2 ⊢
    exact Std.TransCmp.lt_trans h1 h2

/-- transport along an injective embedding of the valid values -/
theorem POrder.embed {β ι : Type} {P : β → Prop} {q : β → β → Option Ordering} (hq : POrder P q)
    (e : β → ι) (he : ∀ x y, e x = e y → x = y) {V : ι → Prop} {pcmp : ι → ι → Option Ordering}
    (hV : ∀ v, V v → ∃ x, P x ∧ v = e x) (hp : ∀ x y, P x → P y → pcmp (e x) (e y) = q x y) :
    POrder V pcmp where
  total a b ha hb := by
    obtain ⟨x, px, rfl⟩ := hV a ha
    obtain ⟨y, py, rfl⟩ := hV b hb
    rw [hp x y px py]; exact hq.total x y px py
  swap a b o ha hb h := by
    obtain ⟨x, px, rfl⟩ := hV a ha
    obtain ⟨y, py, rfl⟩ := hV b hb
    rw [hp x y px py] at h
    rw [hp y x py px]; exact hq.swap x y o px py h
  eq_iff a b ha hb := by
    obtain ⟨x, px, rfl⟩ := hV a ha
    obtain ⟨y, py, rfl⟩ := hV b hb
    rw [hp x y px py, hq.eq_iff x y px py]
    exact ⟨fun h => h ▸ rfl, he x y⟩
  lt_trans a b c ha hb hc h1 h2 := by
    obtain ⟨x, px, rfl⟩ := hV a ha
    obtain ⟨y, py, rfl⟩ := hV b hb
    obtain ⟨z, pz, rfl⟩ := hV c hc
    rw [hp x y px py] at h1
    rw [hp y z py pz] at h2
    rw [hp x z px pz]; exact hq.lt_trans x y z px py pz h1 h2

/-! `ratCmp` is core's `compareOfLessAndEq` on `Rat` -/

theorem ratCmp_lt_iff (a b : Rat) : ratCmp a b = .lt ↔ a < b := compareOfLessAndEq_eq_lt

theorem ratCmp_eq_iff (a b : Rat) : ratCmp a b = .eq ↔ a = b :=
  compareOfLessAndEq_eq_eq (fun _ => Rat.le_refl) Rat.not_le

theorem ratCmp_swap (a b : Rat) : ratCmp b a = (ratCmp a b).swap :=
  compareOfLessAndEq_eq_swap Rat.le_antisymm (fun _ _ => Rat.le_total) Rat.not_le

theorem FV.fin_or_inf {x : FV} (h : x ≠ .nan) : (∃ q, x = .fin q) ∨ ∃ n, x = .inf n := by
  cases x with
  | fin q => exact .inl ⟨q, rfl⟩
  | nan => exact absurd rfl h
  | inf n => exact .inr ⟨n, rfl⟩

/-- `f32/f64::partial_cmp` is a total order on the non-NaN value classes -/
theorem fvPcmp_porder : POrder (fun v : FV => v ≠ .nan) fvPcmp where
  total a b ha hb := by
    cases a <;> cases b <;> simp_all [fvPcmp]
  swap a b o ha hb h := by
    rcases FV.fin_or_inf ha with ⟨p, rfl⟩ | ⟨m, rfl⟩ <;>
      rcases FV.fin_or_inf hb with ⟨q, rfl⟩ | ⟨n, rfl⟩
    · simp only [fvPcmp, Option.some.injEq] at h ⊢; rw [← h, ratCmp_swap p q]
    · cases n <;> (cases h; rfl)
    · cases m <;> (cases h; rfl)
    · cases m <;> cases n <;> (cases h; rfl)
  eq_iff a b ha hb := by
    rcases FV.fin_or_inf ha with ⟨p, rfl⟩ | ⟨m, rfl⟩ <;>
      rcases FV.fin_or_inf hb with ⟨q, rfl⟩ | ⟨n, rfl⟩
    · simp only [fvPcmp, Option.some.injEq, FV.fin.injEq]; exact ratCmp_eq_iff p q
    · cases n <;> simp [fvPcmp]
    · cases m <;> simp [fvPcmp]
    · cases m <;> cases n <;> simp [fvPcmp]
  lt_trans a b c ha hb hc h1 h2 := by
    rcases FV.fin_or_inf ha with ⟨p, rfl⟩ | ⟨m, rfl⟩ <;>
      rcases FV.fin_or_inf hb with ⟨q, rfl⟩ | ⟨n, rfl⟩ <;>
      rcases FV.fin_or_inf hc with ⟨r, rfl⟩ | ⟨k, rfl⟩
    · simp only [fvPcmp, Option.some.injEq] at h1 h2 ⊢
      exact (ratCmp_lt_iff p r).2 (Std.lt_trans ((ratCmp_lt_iff p q).1 h1) ((ratCmp_lt_iff q r).1 h2))
    · cases k <;> simp_all [fvPcmp]
    · cases n <;> simp_all [fvPcmp]
    · cases n <;> cases k <;> simp_all [fvPcmp]
    · cases m <;> simp_all [fvPcmp]
    · cases m <;> cases k <;> simp_all [fvPcmp]
    · cases m <;> cases n <;> simp_all [fvPcmp]
    · cases m <;> cases n <;> cases k <;> simp_all [fvPcmp]

attribute [local instance] lexOrd in
theorem compare_pair (x y : Int × Int) :
    compare x y = if x.1 != y.1 then compare x.1 y.1 else compare x.2 y.2 := by
  show compareLex (compareOn (·.1)) (compareOn (·.2)) x y = _
  simp only [compareLex, compareOn]
  by_cases h : x.1 = y.1
  · simp [h, Std.ReflOrd.compare_self]
  · have : compare x.1 y.1 ≠ .eq := fun e => h (Std.LawfulEqOrd.compare_eq_iff_eq.1 e)
    simp only [bne_iff_ne, ne_eq, h, not_false_eq_true, if_true]
    cases hc : compare x.1 y.1 <;> simp_all [Ordering.then]

/-- the valid inner values of a base type: well-typed and not the null -/
def Valid (b : Base) (v : Val) : Prop := ValOf b v ∧ isNoneOf b v = false

attribute [local instance] lexOrd in
/-- **`Inner::partial_cmp` is a total order on the valid values of every base type** -/
theorem pcmpVal_porder (b : Base) : POrder (Valid b) pcmpVal := by
  have hord : ∀ {β : Type} [Ord β] [Std.TransOrd β] [Std.LawfulEqOrd β] (e : β → Val),
      (∀ x y, e x = e y → x = y) → (∀ x y, pcmpVal (e x) (e y) = some (compare x y)) →
      (∀ v, Valid b v → ∃ i, v = e i) → POrder (Valid b) pcmpVal := fun e he hp hV =>
    POrder.embed POrder.ofOrd e he (fun v hv => by obtain ⟨i, rfl⟩ := hV v hv; exact ⟨i, trivial, rfl⟩)
      (fun _ _ _ _ => hp _ _)
  cases b
  case f32 | f64 =>
    refine POrder.embed fvPcmp_porder Val.flt (fun _ _ => Val.flt.inj) (fun v hv => ?_) (fun _ _ _ _ => rfl)
    obtain ⟨x, rfl⟩ := hv.1.shape
    refine ⟨x, fun e => ?_, rfl⟩
    subst e; cases hv.2
  case str | sref => exact hord Val.str (fun _ _ => Val.str.inj) (fun _ _ => rfl) fun v hv => hv.1.shape
  case bool => exact hord Val.bool (fun _ _ => Val.bool.inj) (fun _ _ => rfl) fun v hv => hv.1.shape
  case td =>
    refine POrder.embed (P := fun x : Int × Int => x.1 ≠ i32Min) (q := fun x y => some (compare x y))
      ?_ (fun x => Val.td x.1 x.2) (fun x y h => by cases x; cases y; cases h; rfl) ?_ ?_
    · have h := POrder.ofOrd (β := Int × Int)
      exact ⟨fun a b _ _ => h.total a b trivial trivial, fun a b o _ _ => h.swap a b o trivial trivial,
        fun a b _ _ => h.eq_iff a b trivial trivial, fun a b c _ _ _ => h.lt_trans a b c trivial trivial trivial⟩
    · intro v hv
      obtain ⟨m, n, rfl⟩ := hv.1.shape
      refine ⟨(m, n), fun e => ?_, rfl⟩
      have hm : (m == i32Min) = false := hv.2
      rw [show m = i32Min from e] at hm; cases hm
    · intro x y hx _
      have : (x.1 == i32Min) = false := by simpa using hx
      simp only [pcmpVal, this, Bool.false_eq_true, if_false, compare_pair]
      split <;> rfl
  all_goals exact hord Val.int (fun _ _ => Val.int.inj) (fun _ _ => rfl) fun v hv => hv.1.shape

/-- what the comparator theorems need of an instance `R` with canonical values `C` -/
structure OrdSetup (R : NullRepr α ι) (pcmp : ι → ι → Option Ordering) (C : α → Prop) (V : ι → Prop) : Prop where
  porder : POrder V pcmp
  valid : ∀ a v, C a → R.asOpt a = some v → V v
  inj : ∀ a b, C a → C b → R.asOpt a = R.asOpt b → a = b
  null_iff : ∀ a, R.isNone a = (R.asOpt a).isNone

end Tv.C15
