import Mathlib.Algebra.Order.Field.Rat
import Mathlib.Tactic.Ring
/-!
Arithmetic shared by the quantile kernels of C12 and C20: floor and ceiling of a fractional index
`t ≥ 0` as naturals, the mirrored index, and the linear interpolation between two neighbours.
-/
namespace Tv.C12

theorem floor_toNat_cast {t : Rat} (ht : 0 ≤ t) : ((t.floor.toNat : Nat) : Int) = t.floor := by
  apply Int.toNat_of_nonneg
  rw [Rat.le_floor_iff]; simpa using ht

theorem floor_le_ceil (t : Rat) : t.floor ≤ t.ceil := by
  have : ((t.floor : Int) : Rat) ≤ ((t.ceil : Int) : Rat) := le_trans (Rat.floor_le t) Rat.le_ceil
  exact_mod_cast this

theorem ceil_toNat_cast {t : Rat} (ht : 0 ≤ t) : ((t.ceil.toNat : Nat) : Int) = t.ceil := by
  apply Int.toNat_of_nonneg
  have h1 : (0 : Int) ≤ t.floor := by rw [Rat.le_floor_iff]; simpa using ht
  exact le_trans h1 (floor_le_ceil t)

theorem natCast_floor {t : Rat} (ht : 0 ≤ t) : ((t.floor.toNat : Nat) : Rat) = ((t.floor : Int) : Rat) :=
  (Int.cast_natCast _).symm.trans (congrArg Int.cast (floor_toNat_cast ht))

theorem natCast_ceil {t : Rat} (ht : 0 ≤ t) : ((t.ceil.toNat : Nat) : Rat) = ((t.ceil : Int) : Rat) :=
  (Int.cast_natCast _).symm.trans (congrArg Int.cast (ceil_toNat_cast ht))

theorem ceil_toNat_le {t : Rat} {L : Nat} (ht : 0 ≤ t) (htL : t ≤ (L : Rat)) : t.ceil.toNat ≤ L := by
  have h := ceil_toNat_cast ht
  have : t.ceil ≤ (L : Int) := by rw [Rat.ceil_le_iff]; simpa using htL
  omega

theorem index_bounds (L : Nat) {q : Rat} (h0 : 0 ≤ q) (h1 : q ≤ 1) :
    0 ≤ (L : Rat) * q ∧ (L : Rat) * q ≤ (L : Rat) :=
  ⟨mul_nonneg (Nat.cast_nonneg L) h0, mul_le_of_le_one_right (Nat.cast_nonneg L) h1⟩

theorem floor_ceil_cases {t : Rat} (ht : 0 ≤ t) :
    (t.floor.toNat = t.ceil.toNat ∧ t = (t.floor.toNat : Rat)) ∨
    (t.ceil.toNat = t.floor.toNat + 1 ∧ (t.floor.toNat : Rat) < t ∧ t < (t.floor.toNat : Rat) + 1) := by
  have hf := floor_toNat_cast ht
  have hc := ceil_toNat_cast ht
  have h1 : ((t.floor : Int) : Rat) ≤ t := Rat.floor_le t
  have h2 : t < ((t.floor : Int) : Rat) + 1 := by
    have := Rat.lt_floor_add_one t
    push_cast at this
    exact this
  have h3 : t ≤ ((t.ceil : Int) : Rat) := Rat.le_ceil
  have h5 := floor_le_ceil t
  have h6 : t.ceil ≤ t.floor + 1 := by
    rw [Rat.ceil_le_iff]; push_cast; exact le_of_lt h2
  rw [natCast_floor ht]
  by_cases h : t.floor = t.ceil
  · left
    refine ⟨by omega, ?_⟩
    rw [h] at h1 ⊢
    exact le_antisymm h3 h1
  · right
    refine ⟨by omega, lt_of_le_of_ne h1 ?_, h2⟩
    intro h'
    have : t.ceil = t.floor := by rw [← h']; exact Rat.ceil_intCast _
    omega

theorem floor_ceil_lt {t : Rat} {n : Nat} (ht : 0 ≤ t) (htL : t ≤ ((n - 1 : Nat) : Rat)) (hn : 1 ≤ n) :
    t.floor.toNat < n ∧ t.ceil.toNat < n := by
  have hc := ceil_toNat_le ht htL
  have hfc : t.floor.toNat ≤ t.ceil.toNat := Int.toNat_le_toNat (floor_le_ceil t)
  generalize t.floor.toNat = i at hfc
  generalize t.ceil.toNat = j at hc hfc
  omega

theorem toNat_neg_add {c : Int} {n : Nat} (L : Nat) (hn : (n : Int) = c) :
    (-c + (L : Int)).toNat = L - n := by omega

set_option linter.unusedVariables false in
/-- mirrored index: for a natural `L ≥ t ≥ 0`, `⌊L - t⌋ = L - ⌈t⌉` and `⌈L - t⌉ = L - ⌊t⌋`
(for `t > L` both sides are `0`, so the bound `htL` is not used) -/
theorem mirror_index (L : Nat) {t : Rat} (ht : 0 ≤ t) (htL : t ≤ (L : Rat)) :
    ((L : Rat) - t).floor.toNat = L - t.ceil.toNat ∧ ((L : Rat) - t).ceil.toNat = L - t.floor.toNat := by
  have e : (L : Rat) - t = -t + ((L : Int) : Rat) := by push_cast; ring
  have hfl : ((L : Rat) - t).floor = -t.ceil + (L : Int) := by
    rw [e, Rat.floor_add_intCast, Rat.ceil_eq_neg_floor_neg t, neg_neg]
  have hcl : ((L : Rat) - t).ceil = -t.floor + (L : Int) := by
    rw [e, Rat.ceil_add_intCast, Rat.ceil_eq_neg_floor_neg (-t), neg_neg]
  rw [hfl, hcl]
  exact ⟨toNat_neg_add L (ceil_toNat_cast ht), toNat_neg_add L (floor_toNat_cast ht)⟩

/-- the kernels' `fraction = (q - i/L) / ((i+1)/L - i/L)` is the offset of the index `L q` from `i` -/
theorem fraction_eq {L : Rat} (hL : L ≠ 0) (q : Rat) (i : Nat) :
    (q - (i : Rat) / L) / (((i + 1 : Nat) : Rat) / L - (i : Rat) / L) = L * q - (i : Rat) := by
  rw [← sub_div, Nat.cast_succ, add_sub_cancel_left, div_div_eq_mul_div, div_one, sub_mul,
    div_mul_cancel₀ _ hL, mul_comm]

theorem lerp_le {a b t : Rat} (hab : a ≤ b) (ht : t ≤ 1) : a + (b - a) * t ≤ b := by
  have e : b - (a + (b - a) * t) = (b - a) * (1 - t) := by ring
  exact sub_nonneg.mp (e ▸ mul_nonneg (sub_nonneg.mpr hab) (sub_nonneg.mpr ht))

theorem le_lerp_desc {a b t : Rat} (hba : b ≤ a) (ht : t ≤ 1) : b ≤ a + (b - a) * t := by
  have e : a + (b - a) * t - b = (a - b) * (1 - t) := by ring
  exact sub_nonneg.mp (e ▸ mul_nonneg (sub_nonneg.mpr hba) (sub_nonneg.mpr ht))

theorem lerp_nonneg {a b t : Rat} (ha : 0 ≤ a) (hb : 0 ≤ b) (ht0 : 0 ≤ t) (ht : t ≤ 1) :
    0 ≤ a + (b - a) * t := by
  have e : a + (b - a) * t = a * (1 - t) + b * t := by ring
  exact e ▸ add_nonneg (mul_nonneg ha (sub_nonneg.mpr ht)) (mul_nonneg hb ht0)

/-- one segment traversed from both ends: up to its middle the ascent is below the descent -/
theorem lerp_le_lerp_rev {a b t : Rat} (hab : a ≤ b) (ht : 2 * t ≤ 1) :
    a + (b - a) * t ≤ b + (a - b) * t := by
  have e : b + (a - b) * t - (a + (b - a) * t) = (b - a) * (1 - 2 * t) := by ring
  exact sub_nonneg.mp (e ▸ mul_nonneg (sub_nonneg.mpr hab) (sub_nonneg.mpr ht))

end Tv.C12
