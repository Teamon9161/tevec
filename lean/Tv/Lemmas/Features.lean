import Tv.Lemmas.Moments
import Tv.Lemmas.Window
import Tv.Thm.C02
/-! emit lemmas: each closure's closed form on the power sums equals the from-scratch spec,
and the lift through the driver (`momRoll_exact`). -/
namespace Tv
open Tv.Spec

theorem eps_eq : Tv.EPS = Spec.EPS := rfl
theorem sgn_eq (q : Rat) : Tv.sgn q = Spec.sgn q := rfl

theorem emitSum_spec (m : Nat) (l : List Rat) : emitSum m (momOf l) = Spec.tsSum m l := by
  simp [emitSum, Spec.tsSum, Spec.masked, momOf_s1]

theorem emitMean_spec (m : Nat) (l : List Rat) : emitMean m (momOf l) = Spec.tsMean m l := by
  simp only [emitMean, Spec.tsMean, Spec.masked, momOf_n, ge_iff_le]
  split
  · simp only [Out.div, momOf_s1, Spec.mean]
    by_cases h : l.length = 0
    · simp [h]
    · have : (l.length : Rat) ≠ 0 := by exact_mod_cast h
      simp [h, this]
  · rfl

/-- the numerator `var * n` of the closures' `var * n / (n - 1)` is the centred sum of squares; the
four emit lemmas below then follow the closure's case split on the EPS floor -/
theorem csum2_eq (l : List Rat) (hn : 1 ≤ l.length) :
    csum 2 (Spec.mean l) l = (momOf l).pvar * (l.length : Rat) := by
  rw [pvar_eq_cmom2 l hn, cmom]
  field_simp [cast_len_ne_zero hn]

theorem cast_sub_ne_zero {n k : Nat} (h : k < n) : (n : Rat) - (k : Rat) ≠ 0 :=
  sub_ne_zero.2 fun e => absurd (Nat.cast_injective e) (Nat.ne_of_gt h)

theorem emitVar_spec (m : Nat) (hm : 2 ≤ m) (l : List Rat) : emitVar m (momOf l) = Spec.tsVar m l := by
  simp only [emitVar, Spec.tsVar, Spec.masked, momOf_n, ge_iff_le]
  split
  · next h =>
    have hn : 1 ≤ l.length := Nat.le_trans (Nat.le_trans (by decide) hm) h
    rw [← csum2_eq l hn, pvar_eq_cmom2 l hn, eps_eq]
    by_cases hc : cmom 2 l ≤ Spec.EPS
    · rw [if_neg (not_lt.2 hc), if_pos hc]
    · rw [if_pos (not_le.1 hc), if_neg hc, if_neg (Nat.ne_of_gt (Nat.le_trans hm h)), Out.div,
        if_neg (Nat.cast_one (R := Rat) ▸ cast_sub_ne_zero (Nat.le_trans hm h))]
  · rfl

theorem emitStd_spec (m : Nat) (hm : 2 ≤ m) (l : List Rat) : emitStd m (momOf l) = Spec.tsStd m l := by
  simp only [emitStd, Spec.tsStd, Spec.masked, momOf_n, ge_iff_le]
  split
  · next h =>
    have hn : 1 ≤ l.length := Nat.le_trans (Nat.le_trans (by decide) hm) h
    rw [← csum2_eq l hn, pvar_eq_cmom2 l hn, eps_eq]
    by_cases hc : cmom 2 l ≤ Spec.EPS
    · rw [if_neg (not_lt.2 hc), if_pos hc]
    · rw [if_pos (not_le.1 hc), if_neg hc, if_neg (Nat.ne_of_gt (Nat.le_trans hm h)),
        if_neg (Nat.cast_one (R := Rat) ▸ cast_sub_ne_zero (Nat.le_trans hm h))]
  · rfl

theorem emitSkew_spec (m : Nat) (hm : 3 ≤ m) (l : List Rat) : emitSkew m (momOf l) = Spec.tsSkew m l := by
  simp only [emitSkew, Spec.tsSkew, Spec.masked, momOf_n, ge_iff_le]
  split
  · next h =>
    have h3 : 3 ≤ l.length := Nat.le_trans hm h
    have hn : 1 ≤ l.length := Nat.le_trans (by decide) h3
    have e3 := m3_eq_cmom3 l hn
    rw [pvar_eq_cmom2 l hn] at e3 ⊢
    rw [eps_eq]
    by_cases hc : cmom 2 l ≤ Spec.EPS
    · rw [if_pos hc, if_pos hc]
    · have hd : (l.length : Rat) - 2 ≠ 0 := cast_sub_ne_zero (k := 2) h3
      rw [if_neg hc, if_neg hc, if_neg hd, if_neg (Nat.ne_of_gt h3), e3, sgn_eq]
  · rfl

/-- the closure's `(ex4 - 4·mean·ex3)/var² + 6·mean²/var + 3·(mean²/var)²` over the common denominator -/
theorem kurt_common_denom (a q v : Rat) (hv : v ≠ 0) :
    a / (v * v) + 6 * (q / v) + 3 * (q / v * (q / v)) = (a + 6 * q * v + 3 * q * q) / (v * v) := by
  field_simp

theorem emitKurt_spec (m : Nat) (hm : 4 ≤ m) (l : List Rat) : emitKurt m (momOf l) = Spec.tsKurt m l := by
  simp only [emitKurt, Spec.tsKurt, Spec.masked, momOf_n, ge_iff_le]
  split
  · next h =>
    have h4 : 4 ≤ l.length := Nat.le_trans hm h
    have hn : 1 ≤ l.length := Nat.le_trans (by decide) h4
    have h2 : ¬ (l.length = 2 ∨ l.length = 3) := fun e => by
      rcases e with e | e <;> rw [e] at h4 <;> exact absurd h4 (by decide)
    have hd : ((l.length : Rat) - 2) * ((l.length : Rat) - 3) ≠ 0 :=
      mul_ne_zero (cast_sub_ne_zero (k := 2) (Nat.lt_of_lt_of_le (by decide) h4))
        (cast_sub_ne_zero (k := 3) (Nat.lt_of_lt_of_le (by decide) h4))
    have e4 := m4_eq_cmom4 l hn
    dsimp only at e4 -- the `let`s in the statement of `m4_eq_cmom4`
    rw [pvar_eq_cmom2 l hn] at e4 ⊢
    rw [eps_eq]
    by_cases hc : cmom 2 l ≤ Spec.EPS
    · rw [if_pos hc, if_pos hc]
    · have hv : cmom 2 l ≠ 0 := fun h0 => hc (h0 ▸ by unfold Spec.EPS; norm_num)
      rw [if_neg hc, if_neg hc, if_neg hd, if_neg h2, ← e4, one_div, inv_mul_eq_div, kurt_common_denom _ _ _ hv]
  · rfl

/-- a closure over the power sums emits at every position and under either driver shape a function
of the non-null elements of the window; the result type is free so that the count of
valid elements (`C05Gen.cnt1`, result `Nat`) is an instance as well -/
theorem momRun_exact {β : Type} (emit : Mom → β) (F : List Rat → β) (h : ∀ l, emit (momOf l) = F l)
    (sh : Shape) (xs : List (Option Rat)) (w : Nat) (hw : 1 ≤ w) :
    (Roll.mk Mom.zero Mom.add emit Mom.remove).run Mom.zero (applyCalls sh xs w)
      = (List.range xs.length).map (fun i => F (vwin xs i w)) :=
  C02.run_applyCalls ⟨Mom.zero, Mom.add, emit, Mom.remove⟩ MomInv (fun q => F (valid q)) momInv_init
    momInv_add momInv_remove (fun s q hi => by rw [hi]; exact h _) sh xs w hw

theorem momRoll_exact (emit : Mom → Out) (F : List Rat → Out) (h : ∀ l, emit (momOf l) = F l)
    (sh : Shape) (xs : List (Option Rat)) (w : Nat) (hw : 1 ≤ w) :
    (momRoll emit).run Mom.zero (applyCalls sh xs w)
      = (List.range xs.length).map (fun i => F (vwin xs i w)) :=
  momRun_exact emit F h sh xs w hw

end Tv
