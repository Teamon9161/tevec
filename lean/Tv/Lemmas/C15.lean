import Tv.Model.C15Cast
import Tv.Model.C15Ord
/-!
  C15 — definitions used to state the theorems (`Lawful`, canonical values, typing of the
  untyped carrier `Val`, the four-arm scheme `liftCast` of the cast lattice) and the lemmas about
  them.
-/
namespace Tv.C15

/-- the algebraic laws of one `IsNone` instance on its canonical values `Canon` -/
structure Lawful (R : NullRepr α ι) (Canon : α → Prop) : Prop where
  /-- `is_none` agrees with `to_opt` -/
  isNone_iff_toOpt : ∀ x, R.isNone x = (R.toOpt x).isNone
  /-- `not_none` (often re-implemented) is the negation of `is_none` -/
  notNone_eq_not : ∀ x, R.notNone x = !R.isNone x
  /-- the borrowed option agrees with the owned one -/
  asOpt_eq_toOpt : ∀ x, R.asOpt x = R.toOpt x
  /-- the null constructor, where it exists, produces a null -/
  none_isNone : ∀ n, R.noneV = .ok n → R.isNone n = true
  /-- wrapping the unwrapped inner of a non-null value is the identity -/
  fromInner_unwrap : ∀ x, Canon x → R.isNone x = false → ∃ v, R.unwrap x = .ok v ∧ R.fromInner v = x
  /-- `from_opt ∘ to_opt` is the identity (for nulls too) -/
  fromOpt_toOpt : ∀ x, Canon x → R.fromOpt (R.toOpt x) = .ok x

theorem Lawful.mono {R : NullRepr α ι} {C C' : α → Prop} (h : Lawful R C) (hc : ∀ x, C' x → C x) :
    Lawful R C' where
  isNone_iff_toOpt := h.isNone_iff_toOpt
  notNone_eq_not := h.notNone_eq_not
  asOpt_eq_toOpt := h.asOpt_eq_toOpt
  none_isNone := h.none_isNone
  fromInner_unwrap x hx := h.fromInner_unwrap x (hc x hx)
  fromOpt_toOpt x hx := h.fromOpt_toOpt x (hc x hx)

/-- on canonical values the null is unique: a null value is what `none()` returns -/
theorem Lawful.noneV_eq {R : NullRepr α ι} {C : α → Prop} (h : Lawful R C) {x : α} (hx : C x)
    (hn : R.isNone x = true) : R.noneV = .ok x := by
  have e := h.fromOpt_toOpt x hx
  rw [h.isNone_iff_toOpt, Option.isNone_iff_eq_none] at hn
  rwa [hn] at e

/-- value classes of the base types inside the untyped carrier `Val` -/
def ValOf (b : Base) (v : Val) : Prop :=
  match b, v with
  | .u8, .int i => 0 ≤ i ∧ i ≤ 255
  | .u64, .int i => 0 ≤ i ∧ i ≤ 18446744073709551615
  | .usize, .int i => 0 ≤ i ∧ i ≤ 18446744073709551615
  | .i32, .int i => -2147483648 ≤ i ∧ i ≤ 2147483647
  | .i64, .int i => -9223372036854775808 ≤ i ∧ i ≤ 9223372036854775807
  | .isize, .int i => -9223372036854775808 ≤ i ∧ i ≤ 9223372036854775807
  | .f32, .flt _ => True
  | .f64, .flt _ => True
  | .bool, .bool _ => True
  | .str, .str _ => True
  | .sref, .str _ => True
  | .dt, .int i => -9223372036854775808 ≤ i ∧ i ≤ 9223372036854775807
  | .time, .int i => -9223372036854775808 ≤ i ∧ i ≤ 9223372036854775807
  | .td, .td m n => -2147483648 ≤ m ∧ m ≤ 2147483647 ∧ (m = -2147483648 → n = 0)
  | _, _ => False

/-- canonical values of `Option<T>`: never `Some(null)` (DESIGN 5.4) -/
def CanonOpt (R : NullRepr ι ι) (C : ι → Prop) : Option ι → Prop
  | none => True
  | some v => C v ∧ R.isNone v = false

/-- a well-typed canonical runtime value of type `t` -/
def Typed (t : Ty) : XV → Prop
  | .v a => t.opt = false ∧ ValOf t.base a
  | .o none => t.opt = true
  | .o (some a) => t.opt = true ∧ ValOf t.base a ∧ isNoneOf t.base a = false

/-- `is_none` of a runtime value of type `t` -/
def xvIsNone (t : Ty) : XV → Bool
  | .v a => isNoneOf t.base a
  | .o a => a.isNone

/-- can `t` represent a null? (`Option<_>`, floats, strings, time types) -/
def Ty.nullable (t : Ty) : Bool := t.opt || t.base.fltTy.isSome || t.base.isStr || t.base.isTime

/-- the value of type `d` holding the non-null inner `v` -/
def wrapXV (d : Ty) (v : Val) : XV := if d.opt then .o (some v) else .v v

/-- the null of type `d`: `None`, or `<D as IsNone>::none()` (a panic when `D` has no null) -/
def nullXV (d : Ty) : Res XV := if d.opt then .ok (.o none) else (noneOf d.base).map .v

/-- the non-null inner value of a runtime value, if any (`to_opt`) -/
def innerOf (s : Ty) : XV → Option Val
  | .v a => if isNoneOf s.base a then none else some a
  | .o a => a

/-- `T → Option<T>` on runtime values -/
def toOptXV : XV → XV
  | .v a => .o (some a)
  | .o a => .o a

def isNumPair (p : String × String) : Bool :=
  match Base.ofName p.1, Base.ofName p.2 with
  | some s, some d => s.isNum && d.isNum && s != d
  | _, _ => false

/-- numeric or bool: the base types of the 18 x 18 cast lattice -/
def Base.inLattice (b : Base) : Bool := b.isNum || b == .bool

/-- the plain `S → D` conversion of the lattice: identity, `as`, through-i32 to bool, through-u8 from bool -/
def convL (sb db : Base) (a : Val) : Res Val :=
  if sb == db then .ok a
  else if db == .bool then toBool sb a
  else if sb == .bool then .ok (boolTo db a)
  else .ok (arm1 db a)

/-- the scheme every `(S, D)` of the lattice follows, given the plain conversion `conv` -/
def liftCast (conv : Val → Res Val) (s d : Ty) (x : XV) : Res XV :=
  match s.opt, d.opt, x with
  | false, false, .v a => (conv a).map .v
  | false, true, .v a => if isNoneOf s.base a then .ok (.o none) else (conv a).map fun w => .o (some w)
  | true, true, .o none => .ok (.o none)
  | true, true, .o (some v) => (conv v).map fun w => .o (some w)
  | true, false, .o none => nullXV d
  | true, false, .o (some v) => (conv v).map .v
  | _, _, _ => .panic

theorem Res.map_map (r : Res α) (f : α → β) (g : β → γ) : (r.map f).map g = r.map (g ∘ f) := by
  cases r <;> rfl

theorem Res.map_eq_ok {r : Res α} {f : α → β} {y : β} (h : r.map f = .ok y) : ∃ w, r = .ok w ∧ y = f w := by
  cases r with
  | ok w => exact ⟨w, rfl, by simpa [Res.map] using h.symm⟩
  | panic => simp [Res.map] at h

theorem ValOf.shape {b : Base} {v : Val} (h : ValOf b v) :
    match b with
    | .f32 | .f64 => ∃ x, v = .flt x
    | .bool => ∃ c, v = .bool c
    | .str | .sref => ∃ s, v = .str s
    | .td => ∃ m n, v = .td m n
    | _ => ∃ i, v = .int i := by
  cases b <;> cases v <;> first | exact h.elim | exact ⟨_, rfl⟩ | exact ⟨_, _, rfl⟩

theorem Typed.shape {sb : Base} {so : Bool} {x : XV} (hx : Typed ⟨sb, so⟩ x) :
    (∃ a, so = false ∧ x = .v a ∧ ValOf sb a) ∨ (so = true ∧ x = .o none) ∨
    (∃ a, so = true ∧ x = .o (some a) ∧ ValOf sb a ∧ isNoneOf sb a = false) := by
  rcases x with a | (_ | a)
  · exact Or.inl ⟨a, hx.1, rfl, hx.2⟩
  · exact Or.inr (Or.inl ⟨hx, rfl⟩)
  · exact Or.inr (Or.inr ⟨a, hx.1, rfl, hx.2.1, hx.2.2⟩)

theorem Typed.null_or_inner {s : Ty} {x : XV} (hx : Typed s x) :
    xvIsNone s x = true ∨ ∃ v, innerOf s x = some v ∧ xvIsNone s x = false ∧ isNoneOf s.base v = false ∧
      ValOf s.base v := by
  rcases x with a | (_ | a)
  · cases h : isNoneOf s.base a
    · exact .inr ⟨a, if_neg (by rw [h]; exact Bool.false_ne_true), h, h, hx.2⟩
    · exact .inl h
  · exact .inl rfl
  · exact .inr ⟨a, rfl, rfl, hx.2.2, hx.2.1⟩

/-! ### the classes of base types: numeric (integer or float), bool, string, time

  Each lemma turns one class test into the outcome of all the tests `castModelAt` makes. -/

theorem isNum_class (b : Base) (h : b.isNum = true) :
    (b == Base.bool) = false ∧ b.isStr = false ∧ b.isTime = false ∧ (b == Base.str) = false := by
  cases b <;> first | contradiction | exact ⟨rfl, rfl, rfl, rfl⟩

theorem fltTy_class (b : Base) (f : FltTy) (h : b.fltTy = some f) :
    b.intTy = none ∧ b.isNum = true ∧ (b == Base.bool) = false ∧ (b == Base.i64) = false := by
  cases b <;> first | contradiction | exact ⟨rfl, rfl, rfl, rfl⟩

theorem isTime_class (b : Base) (h : b.isTime = true) :
    b.isNum = false ∧ (b == Base.bool) = false ∧ b.isStr = false ∧ (b == Base.str) = false := by
  cases b <;> first | contradiction | exact ⟨rfl, rfl, rfl, rfl⟩

theorem isStr_class (b : Base) (h : b.isStr = true) : b.isNum = false ∧ (b == Base.bool) = false := by
  cases b <;> first | contradiction | exact ⟨rfl, rfl⟩

theorem numOrBool_ne_str (b : Base) (h : (b.isNum || b == .bool) = true) : (b == Base.str) = false := by
  cases b <;> first | rfl | contradiction

theorem inLattice_cases (b : Base) (h : b.inLattice = true) :
    (b.isNum = true ∧ (b == Base.bool) = false) ∨ (b = .bool) := by
  cases b <;> first | contradiction | exact .inr rfl | exact .inl ⟨rfl, rfl⟩

/-! ### which impl `castModelAt` selects outside the numeric / bool lattice -/

theorem castModelAt_time_num (p : Bool) (sb db : Base) (dopt : Bool) (x : XV) (hs : sb.isTime = true)
    (hd : (db.isNum || db == .bool) = true) :
    castModelAt p ⟨sb, false⟩ ⟨db, dopt⟩ x = castTimeNum p db dopt x := by
  obtain ⟨h1, h2, h3, _⟩ := isTime_class sb hs
  simp only [castModelAt, h1, h2, h3, hs, hd, Bool.false_eq_true, if_false, Bool.not_false, Bool.and_self,
    if_true]

theorem castModelAt_str_num (p : Bool) (sb db : Base) (dopt : Bool) (x : XV) (hs : sb.isStr = true)
    (hd : (db.isNum || db == .bool) = true) :
    castModelAt p ⟨sb, false⟩ ⟨db, dopt⟩ x = castStrNum db dopt x := by
  obtain ⟨h1, h2⟩ := isStr_class sb hs
  simp only [castModelAt, h1, h2, hs, hd, numOrBool_ne_str db hd, Bool.false_eq_true, if_false,
    Bool.not_false, Bool.and_self, if_true]

theorem castModelAt_num_time (p : Bool) (sb db : Base) (so : Bool) (x : XV) (hs : sb.isNum = true)
    (hd : db.isTime = true) :
    castModelAt p ⟨sb, so⟩ ⟨db, false⟩ x = castNumTime p sb db so x := by
  obtain ⟨h1, h2, _, h3⟩ := isTime_class db hd
  simp only [castModelAt, hs, h1, h2, h3, hd, Bool.false_eq_true, if_false, Bool.not_false, Bool.and_self,
    Bool.false_and, if_true]

theorem castModelAt_num_str (p : Bool) (sb : Base) (so : Bool) (x : XV) (hs : sb.isNum = true) :
    castModelAt p ⟨sb, so⟩ ⟨.str, false⟩ x = castNumStr p sb so x := by
  simp only [castModelAt, hs, if_true]; rfl

theorem isNanV_iff (x : Val) : isNanV x = true ↔ x = .flt .nan := by
  cases x with
  | flt v => cases v <;> simp [isNanV]
  | _ => simp [isNanV]

theorem isNoneStr_iff (x : Val) : isNoneStr x = true ↔ x = .str "None" := by
  cases x <;> simp [isNoneStr]

theorem isNoneOf_int (d : Base) (h : d.intTy.isSome = true) (v : Val) : isNoneOf d v = false := by
  cases d <;> first | rfl | contradiction

theorem isNoneOf_bool (v : Val) : isNoneOf .bool v = false := rfl

theorem isNoneOf_flt (d : Base) (f : FltTy) (hf : d.fltTy = some f) (v : Val) : isNoneOf d v = isNanV v := by
  cases d <;> first | contradiction | rfl

theorem noneOf_flt (b : Base) (f : FltTy) (h : b.fltTy = some f) : noneOf b = .ok (.flt .nan) := by
  cases b <;> first | contradiction | rfl

theorem isNoneOf_time (b : Base) (h : b.isTime = true) (v : Val) : isNoneOf b v = isNatV v := by
  cases b <;> first | contradiction | rfl

theorem isNoneOf_flt_val (b : Base) (x : FV) : isNoneOf b (.flt x) = (b.fltTy.isSome && isNanV (.flt x)) := by
  cases b <;> rfl

theorem isNoneOf_eq_isNanV (sb : Base) (hs : sb.isNum = true) (a : Val) (ha : ValOf sb a) :
    isNoneOf sb a = isNanV a := by
  cases sb <;> first | contradiction | rfl | (obtain ⟨i, rfl⟩ := ha.shape; rfl)

theorem isNanV_of_int (b : Base) (h : b.intTy.isSome = true) (v : Val) (hv : ValOf b v) : isNanV v = false := by
  cases b <;> first | contradiction | (obtain ⟨i, rfl⟩ := hv.shape; rfl)

theorem noneOf_isNone (b : Base) (n : Val) (h : noneOf b = .ok n) : isNoneOf b n = true := by
  cases b <;> first | contradiction | (cases h; rfl)

theorem nullXV_isNone (d : Ty) (y : XV) (h : nullXV d = .ok y) : xvIsNone d y = true := by
  obtain ⟨db, dopt⟩ := d
  cases dopt
  · obtain ⟨n, hn, rfl⟩ := Res.map_eq_ok h
    exact noneOf_isNone db n hn
  · cases h; rfl

theorem reprOf_asOpt (b : Base) (a : Val) :
    (reprOf b).asOpt a = if isNoneOf b a then none else some a := by
  cases b <;> rfl

theorem reprOf_null_iff (b : Base) (a : Val) : (reprOf b).isNone a = ((reprOf b).asOpt a).isNone := by
  rw [reprOf_asOpt]; unfold isNoneOf
  cases (reprOf b).isNone a <;> simp

/-- a type with the `impl_not_none!` instance is modelled by `neverRepr` -/
theorem notNoneImpl_repr (b : Base) (h : b.notNoneImpl = true) : reprOf b = neverRepr := by
  cases b <;> first | rfl | contradiction

theorem lattice_nullable_plain (d : Ty) (hd : d.base.inLattice = true) (ho : d.opt = false)
    (hn : d.nullable = true) : ∃ f, d.base.fltTy = some f := by
  obtain ⟨db, dopt⟩ := d
  simp only at hd ho; subst ho
  cases db <;> first | contradiction | exact ⟨_, rfl⟩

theorem isNatV_natOf (d : Base) : isNatV (natOf d) = true := by
  unfold natOf; split <;> rfl

/-- `i64::MIN` is the in-band NaT of every time type -/
theorem isNatV_fromRaw (d : Base) (raw : Int) : isNatV (fromRaw d raw) = (raw == i64Min) := by
  unfold fromRaw
  split
  · cases h : raw == i64Min <;> rfl
  · rfl

theorem roundFlt_ne_nan (f : FltTy) (q : Rat) : roundFlt f q ≠ .nan := by
  unfold roundFlt fltOfMag
  split
  · exact fun h => nomatch h
  · split <;> exact fun h => nomatch h

theorem isNanV_roundFlt (f : FltTy) (q : Rat) : isNanV (.flt (roundFlt f q)) = false := by
  cases h : roundFlt f q <;> first | rfl | exact absurd h (roundFlt_ne_nan f q)

theorem isNanV_asNum_flt (d : Base) (f : FltTy) (hf : d.fltTy = some f) (v : Val) :
    isNanV (asNum d v) = isNanV v := by
  have hi := (fltTy_class d f hf).1
  cases v with
  | int i => simp only [asNum, hi, hf]; exact isNanV_roundFlt f i
  | flt x =>
    simp only [asNum, hi, hf]
    cases x with
    | fin q => exact isNanV_roundFlt f q
    | nan => rfl
    | inf n => rfl
  | bool b => rfl
  | str s => rfl
  | td m n => rfl

theorem asNum_nan (d : Base) (f : FltTy) (hf : d.fltTy = some f) : asNum d (.flt .nan) = .flt .nan :=
  (isNanV_iff _).1 (isNanV_asNum_flt d f hf _)

theorem isNanV_asNum_int (db : Base) (i : Int) : isNanV (asNum db (.int i)) = false := by
  cases hf : db.fltTy with
  | some f => rw [isNanV_asNum_flt db f hf]; rfl
  | none =>
    cases hi : db.intTy with
    | none => simp [asNum, hi, hf, isNanV]
    | some t => simp [asNum, hi, isNanV]

theorem isNanV_boolTo (db : Base) (a : Val) : isNanV (boolTo db a) = false := by
  have h : ∀ u : Int, isNanV (if (db == Base.u8) = true then Val.int u else asNum db (.int u)) = false := by
    intro u
    split
    · rfl
    · exact isNanV_asNum_int db u
  unfold boolTo
  split <;> exact h _

/-! ### each impl family of the lattice follows the four-arm scheme `liftCast` around the plain conversion `convL` -/

theorem castSame_eq (sb : Base) (so dopt : Bool) (x : XV) :
    castSame sb so dopt x = liftCast (fun a => Res.ok a) ⟨sb, so⟩ ⟨sb, dopt⟩ x := by
  cases so <;> cases dopt <;> rcases x with a | (_ | a) <;>
    first | rfl | exact apply_ite (fun o => Res.ok (XV.o o)) ..

theorem castNumNum_eq (sb db : Base) (so dopt : Bool) (x : XV) :
    castNumNum sb db so dopt x = liftCast (fun a => Res.ok (arm1 db a)) ⟨sb, so⟩ ⟨db, dopt⟩ x := by
  cases so <;> cases dopt <;> rcases x with a | (_ | a) <;>
    first | rfl | exact apply_ite (fun o => Res.ok (XV.o o)) ..

theorem castNumBool_eq (sb : Base) (so dopt : Bool) (x : XV) :
    castNumBool sb so dopt x = liftCast (toBool sb) ⟨sb, so⟩ ⟨.bool, dopt⟩ x := by
  cases so <;> cases dopt <;> rcases x with a | (_ | a) <;> try rfl
  · show Res.map _ (if _ then _ else _) = if _ then _ else _
    split
    · rfl
    · exact Res.map_map _ _ _
  · exact Res.map_map _ _ _

theorem castBoolNum_eq (db : Base) (so dopt : Bool) (x : XV) :
    castBoolNum db so dopt x = liftCast (fun a => Res.ok (boolTo db a)) ⟨.bool, so⟩ ⟨db, dopt⟩ x := by
  cases so <;> cases dopt <;> rcases x with a | (_ | a) <;> rfl

theorem castBoolBool_eq (so dopt : Bool) (x : XV) :
    castBoolBool so dopt x = liftCast (fun a => Res.ok a) ⟨.bool, so⟩ ⟨.bool, dopt⟩ x := by
  cases so <;> cases dopt <;> rcases x with a | (_ | a) <;> rfl

theorem convL_same (sb : Base) : convL sb sb = fun a => Res.ok a := by
  funext a; simp [convL]

theorem convL_num (sb db : Base) (h1 : (sb == db) = false) (h2 : (db == Base.bool) = false)
    (h3 : (sb == Base.bool) = false) : convL sb db = fun a => Res.ok (arm1 db a) := by
  funext a; simp [convL, h1, h2, h3]

theorem convL_toBool (sb : Base) (h : (sb == Base.bool) = false) : convL sb .bool = toBool sb := by
  funext a; simp [convL, h]

theorem convL_fromBool (db : Base) (h : (db == Base.bool) = false) :
    convL .bool db = fun a => Res.ok (boolTo db a) := by
  funext a; simp [convL, h, Bool.beq_comm (a := Base.bool)]

theorem convL_null (sb db : Base) (hs : sb.inLattice = true) (f : FltTy) (hf : db.fltTy = some f)
    (a w : Val) (ha : ValOf sb a) (h : convL sb db a = .ok w) : isNoneOf db w = isNoneOf sb a := by
  have hdb := (fltTy_class db f hf).2.2.1
  unfold convL at h
  by_cases e : (sb == db) = true
  · simp only [e, if_true] at h
    cases h; rw [eq_of_beq e]
  · simp only [e, hdb, Bool.false_eq_true, if_false] at h
    rcases inLattice_cases sb hs with ⟨hsn, hsb⟩ | rfl
    · simp only [hsb, Bool.false_eq_true, if_false] at h
      cases h
      rw [isNoneOf_flt db f hf, arm1, isNanV_asNum_flt db f hf, isNoneOf_eq_isNanV sb hsn a ha]
    · simp only [beq_self_eq_true, if_true] at h
      cases h
      rw [isNoneOf_flt db f hf, isNanV_boolTo]; rfl

theorem convL_nan (sb db : Base) (hs : sb.isNum = true) (f : FltTy) (hf : db.fltTy = some f) :
    convL sb db (.flt .nan) = .ok (.flt .nan) := by
  unfold convL
  split
  · rfl
  · rw [if_neg (ne_true_of_eq_false (fltTy_class db f hf).2.2.1),
      if_neg (ne_true_of_eq_false (isNum_class sb hs).1), arm1, asNum_nan db f hf]

theorem liftCast_val (conv : Val → Res Val) (s d : Ty) (x : XV) (v : Val) (hx : Typed s x)
    (hv : innerOf s x = some v) : liftCast conv s d x = (conv v).map (wrapXV d) := by
  obtain ⟨sb, so⟩ := s
  obtain ⟨db, dopt⟩ := d
  rcases hx.shape with ⟨a, rfl, rfl, _⟩ | ⟨rfl, rfl⟩ | ⟨a, rfl, rfl, _⟩
  · obtain ⟨hn, e⟩ := Option.ite_none_left_eq_some.1 hv
    cases e
    cases dopt
    · rfl
    · exact if_neg hn
  · cases hv
  · cases hv; cases dopt <;> rfl

end Tv.C15
