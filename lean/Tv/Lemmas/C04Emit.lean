import Tv.Lemmas.C04Alg
/-!
  Emit-level lemmas for C04: when the running sums are those of the complete pairs `l` of the
  window, each closure's result is the from-scratch statistic of `l`; the aggregate helpers
  applied to a residual list are the textbook moments of that list.
-/
namespace Tv.C04
open Tv Tv.Spec Tv.C04.Spec

theorem EPS_eq : Tv.EPS = Tv.Spec.EPS := rfl
theorem EPS_pos : (0 : Rat) < Tv.Spec.EPS := by unfold Tv.Spec.EPS; norm_num
theorem sgn_eq (q : Rat) : Tv.sgn q = Tv.Spec.sgn q := rfl

theorem sgn_div_pos (x n : Rat) (hn : 0 < n) : Tv.Spec.sgn (x / n) = Tv.Spec.sgn x := by
  unfold Tv.Spec.sgn
  simp only [div_lt_iff₀ hn, zero_mul, div_eq_iff hn.ne']

theorem nat_lt_two_iff (n : Nat) : ((n : Rat) = 0 ∨ (n : Rat) - 1 = 0) ↔ n < 2 := by
  rw [sub_eq_zero, Nat.cast_eq_zero, Nat.cast_eq_one]; omega

theorem regx_eval (f : List (Rat × Rat) → Out) (mp : Nat) (l : List (Rat × Rat)) :
    regx f mp l = if l.length ≥ mp then (if undefinedReg l then Out.degen else f l) else Out.null := rfl

theorem emitCov_spec (mp : Nat) (l : List (Rat × Rat)) : emitCov mp (crossOf l) = cov mp l := by
  unfold emitCov cov Tv.C04.Spec.masked
  simp only
  by_cases hm : l.length ≥ mp
  · simp only [hm, if_true]
    by_cases h2 : l.length < 2
    · simp only [if_pos ((nat_lt_two_iff l.length).mpr h2), if_pos h2]
    · have hn : l.length ≠ 0 := by omega
      have h2' : ¬ ((l.length : Rat) = 0 ∨ (l.length : Rat) - 1 = 0) := fun h => h2 ((nat_lt_two_iff _).mp h)
      simp only [h2', h2, if_false]
      rw [cross_sum_centered l hn]
  · simp [hm]

theorem emitCorr_spec (mp : Nat) (l : List (Rat × Rat)) : emitCorr mp (crossOf l) = corr mp l := by
  unfold emitCorr corr Tv.C04.Spec.masked
  simp only
  by_cases hm : l.length ≥ mp
  · simp only [hm, if_true]
    by_cases hn : l.length = 0
    · simp [hn]
    · have hn' : (l.length : Rat) ≠ 0 := Nat.cast_ne_zero.2 hn
      have hpos : (0 : Rat) < (l.length : Rat) := Nat.cast_pos.2 (Nat.pos_of_ne_zero hn)
      have hA := cmom2_closed (ys l) (by simpa using hn)
      have hB := cmom2_closed (xs l) (by simpa using hn)
      rw [p2_ys, p1_ys, ys_length] at hA
      rw [p2_xs, p1_xs, xs_length] at hB
      simp only [if_neg hn', if_neg hn]
      simp only [← hA, ← hB, EPS_eq]
      by_cases hc : cmom 2 (ys l) > Tv.Spec.EPS ∧ cmom 2 (xs l) > Tv.Spec.EPS
      · simp only [hc, and_self, if_true]
        have hc1 : cmom 2 (ys l) ≠ 0 := (EPS_pos.trans hc.1).ne'
        have hc2 : cmom 2 (xs l) ≠ 0 := (EPS_pos.trans hc.2).ne'
        have hcyy : cyy l = cmom 2 (ys l) * (l.length : Rat) := by
          unfold cyy cmom; rw [ys_length]; exact (div_mul_cancel₀ _ hn').symm
        have hcxx : cxx l = cmom 2 (xs l) * (l.length : Rat) := by
          unfold cxx cmom; rw [xs_length]; exact (div_mul_cancel₀ _ hn').symm
        have hcxy : sAB l / (l.length : Rat) - sA l * sB l / ((l.length : Rat) * (l.length : Rat))
            = cxy l / (l.length : Rat) := by
          rw [cross_sum_centered l hn, sub_div, div_div]
        rw [hcxy, sgn_eq, sgn_div_pos _ _ hpos, hcyy, hcxx]
        congr 1
        field_simp
      · simp only [hc, if_false]
  · simp [hm]

/-- a masked, degenerate-exempt result computed from the sums of `l` is `regx` of the matching
statistic of `l` -/
theorem regx_of_cross (f : Cross → Out) (F : List (Rat × Rat) → Out) (mp : Nat) (l : List (Rat × Rat))
    (h : ¬ undefinedReg l → f (crossOf l) = F l) :
    (if (crossOf l).n ≥ mp then (if (crossOf l).degenerate then Out.degen else f (crossOf l)) else .null)
      = regx F mp l := by
  rw [regx_eval]
  show (if l.length ≥ mp then _ else _) = _
  by_cases hm : l.length ≥ mp
  · rw [if_pos hm, if_pos hm]
    by_cases hd : undefinedReg l
    · rw [if_pos ((degenerate_iff l).mpr hd), if_pos hd]
    · rw [if_neg fun h' => hd ((degenerate_iff l).mp h'), if_neg hd, h hd]
  · rw [if_neg hm, if_neg hm]

theorem emitBeta_spec (mp : Nat) (l : List (Rat × Rat)) : emitBeta mp (crossOf l) = regxBeta mp l :=
  regx_of_cross (fun s => .val s.beta) _ mp l fun h => congrArg Out.val (normal_eq_beta l h)

theorem emitAlpha_spec (mp : Nat) (l : List (Rat × Rat)) : emitAlpha mp (crossOf l) = regxAlpha mp l :=
  regx_of_cross (fun s => .val s.alpha) _ mp l fun h => congrArg Out.val (normal_eq_alpha l h)

theorem emitSse_spec (mp : Nat) (l : List (Rat × Rat)) : emitSse mp (crossOf l) = regxSse mp l :=
  regx_of_cross (fun s => .val s.sse) _ mp l fun h => congrArg Out.val (sse_identity l h)

theorem regx_congr {f g : List (Rat × Rat) → Out} (h : ∀ l, ¬ undefinedReg l → f l = g l) (mp : Nat) :
    regx f mp = regx g mp := by
  funext l
  rw [regx_eval, regx_eval]
  by_cases hd : undefinedReg l
  · rw [if_pos hd, if_pos hd]
  · rw [if_neg hd, if_neg hd, h l hd]

theorem aggMean_spec (e : List Rat) (hn : e.length ≠ 0) : aggMean e = .val (mean e) := by
  unfold aggMean mean
  have : e.length ≥ 1 := by omega
  simp only [this, if_true, msum_eq, List.map_id]

theorem aggStd_spec (e : List Rat) :
    aggStd 2 e =
      (if e.length < 2 then Out.degen
       else if cmom 2 e ≤ Tv.Spec.EPS then .val 0
       else .root 1 (csum 2 (mean e) e / ((e.length : Rat) - 1))) := by
  unfold aggStd
  by_cases h2 : e.length < 2
  · have : e.length < 2 ∨ e.length = 0 := Or.inl h2
    simp only [if_pos this, if_pos h2]
  · have hn : e.length ≠ 0 := by omega
    have hn' : (e.length : Rat) ≠ 0 := Nat.cast_ne_zero.2 hn
    have h2' : ¬ (e.length < 2 ∨ e.length = 0) := by omega
    have hge : e.length ≥ 2 := by omega
    have hm := cmom2_closed e hn
    unfold p2 p1 at hm
    simp only [if_neg h2', if_neg h2, if_pos hge, msum_eq, List.map_id]
    rw [← hm, EPS_eq]
    by_cases hc : cmom 2 e ≤ Tv.Spec.EPS
    · simp only [if_pos hc]
    · simp only [if_neg hc]
      congr 1
      unfold cmom
      field_simp

theorem aggSkew_spec (e : List Rat) :
    aggSkew 3 e =
      (if e.length < 3 then Out.degen
       else if cmom 2 e ≤ Tv.Spec.EPS then .val 0
       else .root (Tv.Spec.sgn (cmom 3 e))
          ((e.length : Rat) * ((e.length : Rat) - 1) * (cmom 3 e * cmom 3 e)
            / (((e.length : Rat) - 2) * ((e.length : Rat) - 2) * (cmom 2 e * cmom 2 e * cmom 2 e)))) := by
  unfold aggSkew
  by_cases h3 : e.length < 3
  · simp [h3]
  · have hn : e.length ≠ 0 := by omega
    have hge : e.length ≥ 3 := by omega
    have hm2 := cmom2_closed e hn
    have hm3 := cmom3_closed e hn
    unfold p3 p2 p1 at hm3
    unfold p2 p1 at hm2
    rw [← hm2] at hm3
    simp only [if_neg h3, if_pos hge, msum_eq, List.map_id]
    rw [← hm2, EPS_eq]
    by_cases hc : cmom 2 e ≤ Tv.Spec.EPS
    · simp only [if_pos hc]
    · simp only [if_neg hc]
      rw [← hm3, sgn_eq]

/-- the NaN-skipping residual map of the closures is the residual list of the complete pairs -/
theorem resids_eq (a b : Rat) (q : List Pair) : resids a b q = residualsOf a b (complete q) := by
  unfold resids residualsOf complete
  rw [List.map_filterMap]
  apply List.filterMap_congr
  rintro ⟨_ | y, _ | x⟩ _ <;> rfl

theorem residualsOf_length (a b : Rat) (l : List (Rat × Rat)) : (residualsOf a b l).length = l.length := by
  simp [residualsOf]

end Tv.C04
