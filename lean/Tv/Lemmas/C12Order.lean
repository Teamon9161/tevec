import Tv.Model.C12
import Tv.Spec.C12
import Mathlib.Algebra.Order.Field.Rat
/-!
The null-last orders `leE rev`, the executable `Std.exec` (insertion sort) meeting the contract
`Std.Ok`, the equations of `valid`, and the canonical sorted form `sortedE rev xs` of a series — sorted
valid elements, then the nulls — which every permutation of `xs` sorted by `leE rev` equals, since the
order is antisymmetric.
-/
namespace Tv.C12
open Tv

/-! `leE rev` is the order `leR rev` on the values with the nulls after them. -/

/-- the order on valid numbers selected by `rev` -/
def leR (rev : Bool) (a b : Rat) : Bool := if rev then decide (b ≤ a) else decide (a ≤ b)

theorem leR_iff (rev : Bool) (a b : Rat) : leR rev a b = true ↔ if rev then b ≤ a else a ≤ b := by
  cases rev <;> exact decide_eq_true_iff

theorem leR_total (rev : Bool) (a b : Rat) : (leR rev a b || leR rev b a) = true := by
  rw [Bool.or_eq_true, leR_iff, leR_iff]
  cases rev
  · exact le_total a b
  · exact le_total b a

theorem leR_trans (rev : Bool) (a b c : Rat) : leR rev a b = true → leR rev b c = true → leR rev a c = true := by
  rw [leR_iff, leR_iff, leR_iff]
  cases rev
  · exact le_trans
  · exact fun h1 h2 => le_trans h2 h1

theorem leR_antisymm (rev : Bool) {a b : Rat} : leR rev a b = true → leR rev b a = true → a = b := by
  rw [leR_iff, leR_iff]
  cases rev
  · exact le_antisymm
  · exact fun h1 h2 => le_antisymm h2 h1

theorem cmpRat_ne_gt (a b : Rat) : (cmpRat a b != .gt) = decide (a ≤ b) := by
  unfold cmpRat
  rcases lt_trichotomy a b with h | h | h
  · rw [if_pos h, decide_eq_true h.le]; rfl
  · rw [if_neg (h ▸ lt_irrefl a), if_pos h, decide_eq_true h.le]; rfl
  · rw [if_neg (not_lt.mpr h.le), if_neg (ne_of_gt h), decide_eq_false (not_le.mpr h)]; rfl

theorem cmpRat_swap (a b : Rat) : (cmpRat a b).swap = cmpRat b a := by
  unfold cmpRat
  rcases lt_trichotomy a b with h | h | h
  · rw [if_pos h, if_neg (not_lt.mpr h.le), if_neg (ne_of_gt h)]; rfl
  · rw [h, if_neg (lt_irrefl b), if_pos rfl]; rfl
  · rw [if_neg (not_lt.mpr h.le), if_neg (ne_of_gt h), if_pos h]; rfl

theorem leE_some_some (rev : Bool) (a b : Rat) : leE rev (some a) (some b) = leR rev a b := by
  cases rev
  · rw [leR, if_neg Bool.false_ne_true, ← cmpRat_ne_gt]; rfl
  · rw [leR, if_pos rfl, ← cmpRat_ne_gt, ← cmpRat_swap]; rfl

@[simp] theorem leE_none_right (rev : Bool) (a : Elem) : leE rev a none = true := by
  cases rev <;> cases a <;> rfl

@[simp] theorem leE_none_some (rev : Bool) (b : Rat) : leE rev none (some b) = false := by
  cases rev <;> rfl

theorem leE_none_left {rev : Bool} {a : Elem} (h : leE rev none a = true) : a = none := by
  cases a with
  | none => rfl
  | some b => simp at h

theorem leE_total (rev : Bool) (a b : Elem) : leE rev a b = true ∨ leE rev b a = true := by
  cases b with
  | none => exact Or.inl (leE_none_right rev a)
  | some y =>
    cases a with
    | none => exact Or.inr (leE_none_right rev _)
    | some x =>
      rw [leE_some_some, leE_some_some]
      exact Bool.or_eq_true_iff.mp (leR_total rev x y)

theorem leE_trans (rev : Bool) (a b c : Elem) :
    leE rev a b = true → leE rev b c = true → leE rev a c = true := by
  intro h1 h2
  cases c with
  | none => exact leE_none_right rev a
  | some z =>
    cases b with
    | none => rw [leE_none_some] at h2; cases h2
    | some y =>
      cases a with
      | none => rw [leE_none_some] at h1; cases h1
      | some x =>
        rw [leE_some_some] at h1 h2 ⊢
        exact leR_trans rev x y z h1 h2

theorem leE_antisymm (rev : Bool) (a b : Elem) :
    leE rev a b = true → leE rev b a = true → a = b := by
  intro h1 h2
  cases a with
  | none => exact (leE_none_left h1).symm
  | some x =>
    cases b with
    | none => rw [leE_none_some] at h2; cases h2
    | some y =>
      rw [leE_some_some] at h1 h2
      exact congrArg some (leR_antisymm rev h1 h2)

theorem leE_refl (rev : Bool) (a : Elem) : leE rev a a = true := by
  rcases leE_total rev a a with h | h <;> exact h

theorem leIdx_total (rev : Bool) (xs : List Elem) (a b : Nat) :
    leIdx rev xs a b = true ∨ leIdx rev xs b a = true := leE_total _ _ _

theorem leIdx_trans (rev : Bool) (xs : List Elem) (a b c : Nat) :
    leIdx rev xs a b = true → leIdx rev xs b c = true → leIdx rev xs a c = true := leE_trans _ _ _ _

section isort
variable {α : Type} (le : α → α → Bool)

theorem insertBy_perm (a : α) (l : List α) : (insertBy le a l).Perm (a :: l) := by
  fun_induction insertBy le a l with
  | case1 => exact List.Perm.refl _
  | case2 b l hab => exact List.Perm.refl _
  | case3 b l hab ih => exact (List.Perm.cons b ih).trans (List.Perm.swap a b l)

theorem isort_perm (l : List α) : (isort le l).Perm l := by
  induction l with
  | nil => simp [isort]
  | cons a l ih => exact (insertBy_perm le a _).trans (List.Perm.cons a ih)

theorem insertBy_pairwise (tot : ∀ a b, le a b = true ∨ le b a = true)
    (tr : ∀ a b c, le a b = true → le b c = true → le a c = true) (a : α) (l : List α)
    (h : l.Pairwise (fun a b => le a b = true)) :
    (insertBy le a l).Pairwise (fun a b => le a b = true) := by
  fun_induction insertBy le a l with
  | case1 => exact List.pairwise_singleton _ _
  | case2 b l hab =>
    refine List.Pairwise.cons (fun c hc => ?_) h
    rcases List.mem_cons.mp hc with rfl | hc
    · exact hab
    · exact tr _ _ _ hab (List.rel_of_pairwise_cons h hc)
  | case3 b l hab ih =>
    rw [List.pairwise_cons] at h
    refine List.Pairwise.cons (fun c hc => ?_) (ih h.2)
    rcases List.mem_cons.mp ((insertBy_perm le a l).mem_iff.mp hc) with rfl | hc
    · exact (tot c b).resolve_left hab
    · exact h.1 c hc

theorem isort_pairwise (tot : ∀ a b, le a b = true ∨ le b a = true)
    (tr : ∀ a b c, le a b = true → le b c = true → le a c = true) (l : List α) :
    (isort le l).Pairwise (fun a b => le a b = true) := by
  induction l with
  | nil => simp [isort]
  | cons a l ih => exact insertBy_pairwise le tot tr a _ ih

end isort

theorem pairwise_take_drop {α : Type} {R : α → α → Prop} {l : List α} (h : l.Pairwise R) (j : Nat) :
    ∀ a ∈ l.take j, ∀ b ∈ l.drop j, R a b := by
  have := List.take_append_drop j l ▸ h
  exact (List.pairwise_append.mp this).2.2

theorem Std.exec_ok : Std.exec.Ok where
  sort_perm := fun le l => isort_perm le l
  sort_sorted := fun le tot tr l => isort_pairwise le tot tr l
  select_spec := by
    intro α le tot tr l j hj
    have hlen : j < (isort le l).length := by rw [(isort_perm le l).length_eq]; exact hj
    refine ⟨((isort le l).take j).reverse, (isort le l)[j], (isort le l).drop (j + 1), ?_, ?_, ?_, ?_, ?_⟩
    · simp [Std.exec, List.getElem?_eq_getElem hlen]
    · have h1 : (((isort le l).take j).reverse ++ (isort le l)[j] :: (isort le l).drop (j + 1)).Perm
          ((isort le l).take j ++ (isort le l)[j] :: (isort le l).drop (j + 1)) :=
        List.Perm.append_right _ (List.reverse_perm _)
      have h2 : (isort le l).take j ++ (isort le l)[j] :: (isort le l).drop (j + 1) = isort le l := by
        rw [← List.drop_eq_getElem_cons hlen]; exact List.take_append_drop j _
      exact (h1.trans (List.Perm.of_eq h2)).trans (isort_perm le l)
    · simp; omega
    · intro a ha
      have hs := isort_pairwise le tot tr l
      have ha' : a ∈ (isort le l).take j := by simpa using ha
      have hm : (isort le l)[j] ∈ (isort le l).drop j := by
        rw [List.drop_eq_getElem_cons hlen]; exact List.mem_cons_self
      exact pairwise_take_drop hs j a ha' _ hm
    · intro b hb
      have hs := isort_pairwise le tot tr l
      have hm : (isort le l)[j] ∈ (isort le l).take (j + 1) := by
        rw [List.take_succ_eq_append_getElem hlen]
        exact List.mem_append_right _ (List.mem_singleton.mpr rfl)
      exact pairwise_take_drop hs (j + 1) _ hm b hb

theorem sorted_unique (rev : Bool) {l₁ l₂ : List Elem} (hp : l₁.Perm l₂)
    (h1 : l₁.Pairwise (fun a b => leE rev a b = true))
    (h2 : l₂.Pairwise (fun a b => leE rev a b = true)) : l₁ = l₂ :=
  List.Perm.eq_of_pairwise (fun a b _ _ => leE_antisymm rev a b) h1 h2 hp

theorem sortedValid_eq (xs : List Elem) (rev : Bool) :
    Spec.sortedValid xs rev = (valid xs).mergeSort (leR rev) := by
  unfold Spec.sortedValid leR
  cases rev <;> simp

theorem sortedValid_perm (xs : List Elem) (rev : Bool) : (Spec.sortedValid xs rev).Perm (valid xs) := by
  rw [sortedValid_eq]; exact List.mergeSort_perm _ _

theorem sortedValid_pairwise (xs : List Elem) (rev : Bool) :
    (Spec.sortedValid xs rev).Pairwise (fun a b => leR rev a b = true) := by
  rw [sortedValid_eq]
  exact List.pairwise_mergeSort (leR_trans rev) (leR_total rev) _

@[simp] theorem sortedValid_length (xs : List Elem) (rev : Bool) :
    (Spec.sortedValid xs rev).length = (valid xs).length := (sortedValid_perm xs rev).length_eq

theorem valid_cons_some (v : Rat) (xs : List Elem) : valid (some v :: xs) = v :: valid xs := rfl

theorem valid_cons_none (xs : List Elem) : valid (none :: xs) = valid xs := rfl

theorem valid_map_some (M : List Rat) : valid (M.map some) = M := by
  induction M with
  | nil => rfl
  | cons a M ih => rw [List.map_cons, valid_cons_some, ih]

theorem valid_perm {l₁ l₂ : List Elem} (h : l₁.Perm l₂) : (valid l₁).Perm (valid l₂) := by
  unfold valid; exact h.filterMap _

theorem valid_length_le (xs : List Elem) : (valid xs).length ≤ xs.length := by
  unfold valid; exact List.length_filterMap_le _ _

def sortedE (rev : Bool) (xs : List Elem) : List Elem :=
  (Spec.sortedValid xs rev).map some ++ List.replicate (xs.length - (valid xs).length) none

theorem perm_valid_nulls (xs : List Elem) :
    xs.Perm ((valid xs).map some ++ List.replicate (xs.length - (valid xs).length) none) := by
  induction xs with
  | nil => simp [valid]
  | cons x xs ih =>
    cases x with
    | some v =>
      rw [valid_cons_some]
      simp only [List.map_cons, List.length_cons, Nat.add_sub_add_right, List.cons_append]
      exact List.Perm.cons _ ih
    | none =>
      rw [valid_cons_none]
      have hl := valid_length_le xs
      have : xs.length + 1 - (valid xs).length = (xs.length - (valid xs).length) + 1 := by omega
      simp only [List.length_cons, this, List.replicate_succ]
      exact (List.Perm.cons none ih).trans List.perm_middle.symm

theorem sortedE_perm (rev : Bool) (xs : List Elem) : (sortedE rev xs).Perm xs := by
  unfold sortedE
  exact (List.Perm.append_right _ ((sortedValid_perm xs rev).map some)).trans (perm_valid_nulls xs).symm

theorem pairwise_some_nulls (rev : Bool) {l : List Rat} (h : l.Pairwise (fun a b => leR rev a b = true))
    (p : Nat) : (l.map some ++ List.replicate p none).Pairwise (fun a b => leE rev a b = true) := by
  rw [List.pairwise_append]
  refine ⟨?_, ?_, ?_⟩
  · rw [List.pairwise_map]
    exact h.imp fun h => (leE_some_some rev _ _).trans h
  · rw [List.pairwise_replicate]; right; simp
  · intro a _ b hb
    rw [List.mem_replicate] at hb
    rw [hb.2]; simp

theorem sortedE_pairwise (rev : Bool) (xs : List Elem) :
    (sortedE rev xs).Pairwise (fun a b => leE rev a b = true) :=
  pairwise_some_nulls rev (sortedValid_pairwise xs rev) _

theorem sorted_eq_sortedE (rev : Bool) {s xs : List Elem} (hp : s.Perm xs)
    (hs : s.Pairwise (fun a b => leE rev a b = true)) : s = sortedE rev xs :=
  sorted_unique rev (hp.trans (sortedE_perm rev xs).symm) hs (sortedE_pairwise rev xs)

theorem sortedE_length (rev : Bool) (xs : List Elem) : (sortedE rev xs).length = xs.length :=
  (sortedE_perm rev xs).length_eq

theorem Std.Ok.sort_eq {S : Std} (h : S.Ok) (rev : Bool) (xs : List Elem) :
    S.sort (leE rev) xs = sortedE rev xs :=
  sorted_eq_sortedE rev (h.sort_perm _ _) (h.sort_sorted _ (leE_total rev) (leE_trans rev) _)

theorem sortedValid_rev (xs : List Elem) : Spec.sortedValid xs true = (Spec.sortedValid xs false).reverse := by
  apply List.Perm.eq_of_pairwise (le := fun a b => leR true a b = true)
  · exact fun a b _ _ => leR_antisymm true
  · exact sortedValid_pairwise xs true
  · rw [List.pairwise_reverse]
    refine (sortedValid_pairwise xs false).imp ?_
    intro a b h
    simpa [leR] using h
  · exact (sortedValid_perm xs true).trans
      ((sortedValid_perm xs false).symm.trans (List.reverse_perm _).symm)

end Tv.C12
