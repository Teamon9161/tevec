import Tv.Model.C09Iter
import Tv.Spec.C09Len
/-!
  C09 helper lemmas: item counts of the adaptors and of the library constructions; exactness of the
  std adaptors of the hint algebra (all but `filter` and `padTake`, whose hint is only an upper bound
  and which occur only under a `to_trust`), of `TrustIter` and `Linspace`; the raw collectors on an
  exact iterator.
-/
namespace Tv.C09
open It

theorem sub_sub_of_add {f b r m : Nat} (h : f + b + r = m) : m - f - b = r := by
  rw [← h, Nat.sub_sub, Nat.add_sub_cancel_left]

/-- `Exact` without truncated subtraction: the hint is the number `n` of items not yet consumed -/
theorem Exact.upper_eq {it : It α} (h : Exact it) {f b n : Nat} (hn : f + b + n = it.items.length) :
    it.upper f b = some n := by
  rw [h f b (hn ▸ Nat.le_add_right _ _), sub_sub_of_add hn]

/-- the adaptor proofs below show `Exact` in the form `f + b + r = length`, so
that `omega` is left with no truncated subtraction (which is what makes it slow) -/
theorem exact_of_rem {it : It α} (h : ∀ f b r, f + b + r = it.items.length → it.upper f b = some r) :
    Exact it := by
  intro f b hb
  obtain ⟨r, hr⟩ := Nat.le.dest hb
  rw [h f b r hr, sub_sub_of_add hr]

theorem Exact.hint0 {it : It α} (h : Exact it) : it.upper 0 0 = some it.len := h.upper_eq (Nat.zero_add _)

theorem Exact.hintLen {it : It α} (h : Exact it) : it.hintLen = .ok it.len := by
  simp only [It.hintLen, h.hint0]

theorem ofList_len (xs : List α) : (ofList xs).len = xs.length := rfl
theorem repeatN_len (v : α) (n : Nat) : (repeatN v n).len = n := List.length_replicate
theorem map_len (g : α → β) (it : It α) : (map g it).len = it.len := List.length_map _
theorem rev_len (it : It α) : (rev it).len = it.len := List.length_reverse
theorem chain_len (a b : It α) : (chain a b).len = a.len + b.len := List.length_append
theorem take_len (it : It α) (n : Nat) : (take it n).len = min n it.len := List.length_take
theorem skip_len (it : It α) (n : Nat) : (skip it n).len = it.len - n := List.length_drop
theorem zipWith_len (g : α → β → γ) (a : It α) (b : It β) : (zipWith g a b).len = min a.len b.len :=
  List.length_zipWith
theorem trust_len (it : It α) (n : Nat) : (trust it n).len = it.len := rfl
theorem linspaceIt_len (val : Nat → α) (n : Nat) : (linspaceIt val n).len = n := by
  simp only [linspaceIt, It.len, List.length_map, List.length_range]

theorem advF_len (it : It α) : (advF it).len = it.len - 1 := by
  unfold advF It.len
  split
  · rename_i h; simp [List.isEmpty_iff.mp h]
  · simp

theorem advB_len (it : It α) : (advB it).len = it.len - 1 := by
  unfold advB It.len
  split
  · rename_i h; simp [List.isEmpty_iff.mp h]
  · simp

theorem padTake_len (a : It α) (v : α) (n : Nat) : (padTake a v n).len = n := by
  simp only [padTake, It.len, List.length_append, List.length_take, List.length_replicate]
  omega

theorem ffillItems_length (value : Option (Option β)) (last : Option (Option β)) (xs : List (Option β)) :
    (ffillItems value last xs).length = xs.length := by
  induction xs generalizing last with
  | nil => simp [ffillItems]
  | cons x xs ih =>
    cases x with
    | none => simp [ffillItems, ih]
    | some y => simp [ffillItems, ih]

theorem ffill_len (value : Option (Option β)) (src : It (Option β)) : (ffill value src).len = src.len :=
  ffillItems_length value none src.items

theorem countValid_le (xs : List E) : countValid xs ≤ xs.length := by
  unfold countValid; exact List.length_filter_le _ _

/-! the arithmetic of padding a lagged series back to its length (`k` = the lag) -/

theorem shift_pos_len {len k : Nat} (h : ¬ len ≤ k) : k + min (len - k) len = len := by
  rw [Nat.min_eq_left (Nat.sub_le len k), Nat.add_sub_of_le (Nat.le_of_not_le h)]

theorem vdiff_pos_len {len k : Nat} (h : ¬ len ≤ k) :
    k + min (min (len - k) len) (len - k) = len := by
  rw [Nat.min_eq_left (Nat.sub_le len k), Nat.min_self, Nat.add_sub_of_le (Nat.le_of_not_le h)]

theorem vpct_pos_len {len k : Nat} (h : ¬ len ≤ k) : min (k + min (len - k) len) len = len := by
  rw [Nat.min_eq_left (Nat.sub_le len k), Nat.add_sub_of_le (Nat.le_of_not_le h), Nat.min_self]

theorem lag_neg_len {len k : Nat} (h : ¬ len ≤ k) : min (len - k) len + k = len := by
  rw [Nat.min_eq_left (Nat.sub_le len k), Nat.sub_add_cancel (Nat.le_of_not_le h)]

/-!
  Each proof evaluates the adaptor's `size_hint` at `(f, b)`, replaces the operands' hints by their
  remaining counts (`Exact.upper_eq`) and is left with arithmetic on the item counts. -/

theorem ofList_exact (xs : List α) : Exact (ofList xs) := fun _ _ _ => rfl

theorem repeatN_exact (v : α) (n : Nat) : Exact (repeatN v n) := by
  intro f b _; simp only [repeatN, List.length_replicate]

theorem Exact.of_same_hint {it : It α} {it' : It β} (h : Exact it)
    (hl : it'.items.length = it.items.length) (hu : it'.upper = it.upper) : Exact it' := by
  intro f b hb
  rw [hl] at hb ⊢
  rw [hu]
  exact h f b hb

theorem map_exact (g : α → β) {it : It α} (h : Exact it) : Exact (map g it) :=
  h.of_same_hint (List.length_map g) rfl

theorem ffill_exact (value : Option (Option β)) {src : It (Option β)} (h : Exact src) :
    Exact (ffill value src) :=
  h.of_same_hint (ffillItems_length value none src.items) rfl

theorem rev_exact {it : It α} (h : Exact it) : Exact (rev it) := by
  intro f b hb
  simp only [rev, List.length_reverse] at hb ⊢
  exact h.upper_eq (by omega)

theorem chain_exact {a b : It α} (ha : Exact a) (hb : Exact b) : Exact (chain a b) := by
  refine exact_of_rem fun f k r hr => ?_
  simp only [chain, List.length_append, It.len] at hr ⊢
  by_cases h1 : f > a.items.length
  · by_cases h2 : k > b.items.length
    · exact absurd hr (by omega)
    · simp only [h1, h2, if_true, if_false]
      obtain ⟨d, rfl⟩ := Nat.le.dest (Nat.le_of_lt h1)
      rw [Nat.min_eq_left (Nat.le_of_not_gt h2), Nat.add_sub_cancel_left]
      exact hb.upper_eq (by omega)
  · by_cases h2 : k > b.items.length
    · simp only [h1, h2, if_true, if_false]
      obtain ⟨d, rfl⟩ := Nat.le.dest (Nat.le_of_lt h2)
      rw [Nat.min_eq_left (Nat.le_of_not_gt h1), Nat.add_sub_cancel_left]
      exact ha.upper_eq (by omega)
    · simp only [h1, h2, if_false]
      rw [Nat.min_eq_left (Nat.le_of_not_gt h1), Nat.min_eq_left (Nat.le_of_not_gt h2),
        Nat.sub_eq_zero_of_le (Nat.le_of_not_gt h1), Nat.sub_eq_zero_of_le (Nat.le_of_not_gt h2)]
      obtain ⟨ra, hra⟩ := Nat.le.dest (Nat.le_of_not_gt h1)
      obtain ⟨rb, hrb⟩ := Nat.le.dest (Nat.le_of_not_gt h2)
      rw [ha.upper_eq (n := ra) hra, hb.upper_eq (n := rb) (by omega)]
      exact congrArg some (by omega)

theorem min_hint {x n r : Nat} (h : min x n = r) :
    (if n = 0 then some 0 else if x < n then some x else some n) = some r := by
  subst h
  split
  · rename_i h0
    rw [h0, Nat.min_zero]
  · split
    · rename_i hlt
      rw [Nat.min_eq_left (Nat.le_of_lt hlt)]
    · rename_i hge
      rw [Nat.min_eq_right (Nat.le_of_not_lt hge)]

theorem take_exact {it : It α} (h : Exact it) (n : Nat) : Exact (take it n) := by
  refine exact_of_rem fun f b r hr => ?_
  simp only [take, List.length_take, It.len] at hr ⊢
  rcases Nat.le_total n it.items.length with hle | hle
  · -- `n` of `n + d` items are taken: the inner iterator keeps a surplus of `d` until the first
    -- `next_back`, which discards it
    obtain ⟨d, hd⟩ := Nat.le.dest hle
    rw [Nat.min_eq_left hle] at hr
    rw [sub_sub_of_add hr, ← hd, Nat.add_sub_cancel_left]
    by_cases hb0 : b = 0
    · rw [if_pos hb0, h.upper_eq (n := r + d) (by omega)]
      exact min_hint (Nat.min_eq_right (Nat.le_add_right r d))
    · rw [if_neg hb0, h.upper_eq (n := r) (by omega)]
      exact min_hint (Nat.min_self r)
  · -- fewer than `n` items: `Take` changes nothing
    obtain ⟨d, hd⟩ := Nat.le.dest hle
    rw [Nat.min_eq_right hle] at hr
    have hb0 : (if b = 0 then 0 else b) = b := ite_eq_right_iff.2 Eq.symm
    rw [Nat.sub_eq_zero_of_le hle, Nat.zero_add, hb0, h.upper_eq hr, show n - f - b = r + d by omega]
    exact min_hint (Nat.min_eq_left (Nat.le_add_right r d))

theorem skip_exact {it : It α} (h : Exact it) (n : Nat) : Exact (skip it n) := by
  refine exact_of_rem fun f b r hr => ?_
  simp only [skip, List.length_drop] at hr ⊢
  rcases Nat.le_total n it.items.length with hle | hle
  · obtain ⟨d, hd⟩ := Nat.le.dest hle
    rw [← hd, Nat.add_sub_cancel_left] at hr
    by_cases hf : f = 0
    · rw [if_pos hf, h.upper_eq (n := r + n) (by omega)]
      exact congrArg some (Nat.add_sub_cancel ..)
    · rw [if_neg hf]
      exact h.upper_eq (by omega)
  · -- nothing is left after the skip
    rw [Nat.sub_eq_zero_of_le hle] at hr
    obtain ⟨rfl, rfl, rfl⟩ : f = 0 ∧ b = 0 ∧ r = 0 := by omega
    rw [if_pos rfl, h.hint0]
    exact congrArg some (Nat.sub_eq_zero_of_le hle)

theorem zipWith_exact (g : α → β → γ) {a : It α} {b : It β} (ha : Exact a) (hb : Exact b) :
    Exact (zipWith g a b) := by
  refine exact_of_rem fun f k r hr => ?_
  simp only [zipWith, List.length_zipWith, It.len] at hr ⊢
  -- the longer side has `d` more items, which the first `next_back` trims
  rcases Nat.le_total a.items.length b.items.length with hle | hle <;> obtain ⟨d, hd⟩ := Nat.le.dest hle
  · rw [Nat.min_eq_left hle] at hr
    rw [Nat.sub_eq_zero_of_le hle, ← hd, Nat.add_sub_cancel_left]
    by_cases hk0 : k = 0
    · subst hk0
      rw [if_pos rfl, if_pos rfl, ha.upper_eq hr, hb.upper_eq (n := r + d) (by omega)]
      exact congrArg some (Nat.min_eq_left (Nat.le_add_right r d))
    · rw [if_neg hk0, if_neg hk0, Nat.zero_add, ha.upper_eq hr, hb.upper_eq (n := r) (by omega)]
      exact congrArg some (Nat.min_self r)
  · rw [Nat.min_eq_right hle] at hr
    rw [Nat.sub_eq_zero_of_le hle, ← hd, Nat.add_sub_cancel_left]
    by_cases hk0 : k = 0
    · subst hk0
      rw [if_pos rfl, if_pos rfl, hb.upper_eq hr, ha.upper_eq (n := r + d) (by omega)]
      exact congrArg some (Nat.min_eq_right (Nat.le_add_right r d))
    · rw [if_neg hk0, if_neg hk0, Nat.zero_add, hb.upper_eq hr, ha.upper_eq (n := r) (by omega)]
      exact congrArg some (Nat.min_self r)

/-- the repaired `TrustIter` is exact as soon as it is built with the true length,
whatever the wrapped iterator announces -/
theorem trust_exact (it : It α) {len : Nat} (h : len = it.len) : Exact (trust it len) := by
  intro f b _
  simp only [trust, It.len] at *
  subst h; congr 1; omega

/-- a construction wrapped in `to_trust(n)` is exact, with `n` items, once its item count
is shown to be `n` -/
theorem trust_exact_len {it : It α} {n : Nat} (h : it.len = n) :
    Exact (trust it n) ∧ (trust it n).len = n := ⟨trust_exact it h.symm, h⟩

theorem linspaceIt_exact (val : Nat → α) (n : Nat) : Exact (linspaceIt val n) := by
  intro f b _
  simp only [linspaceIt, List.length_map, List.length_range] at *
  congr 1; omega

theorem advF_exact {it : It α} (h : Exact it) : Exact (advF it) := by
  unfold advF
  split
  · exact h
  · rename_i hne
    have hpos : 0 < it.items.length := List.length_pos_iff.2 fun h0 => hne (by rw [h0]; rfl)
    refine exact_of_rem fun f b r hr => ?_
    simp only [List.length_tail] at hr
    exact h.upper_eq (by omega)

theorem advB_exact {it : It α} (h : Exact it) : Exact (advB it) := by
  unfold advB
  split
  · exact h
  · rename_i hne
    have hpos : 0 < it.items.length := List.length_pos_iff.2 fun h0 => hne (by rw [h0]; rfl)
    refine exact_of_rem fun f b r hr => ?_
    simp only [List.length_dropLast] at hr
    exact h.upper_eq (by omega)

theorem collectAfter_exact {it : It α} (h : Exact it) (f b : Nat) (hb : f + b ≤ it.len) :
    collectAfter it f b = .ok ((it.items.drop f).take (it.len - f - b)) := by
  unfold collectAfter
  rw [h f b hb]
  simp only [List.length_take, List.length_drop, It.len, Nat.min_eq_left (Nat.sub_le _ _), if_true]

theorem collectTrusted_exact {it : It α} (h : Exact it) : collectTrusted it = .ok it.items := by
  unfold collectTrusted
  rw [collectAfter_exact h 0 0 (Nat.zero_le _)]
  simp [It.len]

end Tv.C09
