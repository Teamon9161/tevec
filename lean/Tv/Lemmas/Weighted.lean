import Tv.Lemmas.Features
import Mathlib.Algebra.Group.Nat.Even
/-! positional accumulators: exponentially and linearly weighted means -/
namespace Tv
open Tv.Spec

theorem sum_append_single (l : List Rat) (v : Rat) : Spec.sum (l ++ [v]) = Spec.sum l + v := by
  induction l with
  | nil => simp [Spec.sum]
  | cons x l ih => simp only [List.cons_append, Spec.sum, List.foldr_cons] at *; rw [ih]; ring

theorem sum_reverse (l : List Rat) : Spec.sum l.reverse = Spec.sum l := by
  induction l with
  | nil => rfl
  | cons x l ih => rw [List.reverse_cons, sum_append_single, ih]; simp only [Spec.sum, List.foldr_cons]; ring

theorem ewmNum_snoc (oma : Rat) (r : List Rat) (v : Rat) :
    ewmNum oma (r ++ [v]) = ewmNum oma r + oma ^ r.length * v := by
  induction r with
  | nil => simp [ewmNum]
  | cons x r ih => simp only [List.cons_append, ewmNum, ih, List.length_cons]; ring

theorem geom_closed (alpha : Rat) (n : Nat) : alpha * geom (1 - alpha) n = 1 - (1 - alpha) ^ n := by
  induction n with
  | zero => simp [geom]
  | succ n ih =>
    simp only [geom]
    have : alpha * (1 + (1 - alpha) * geom (1 - alpha) n) = alpha + (1 - alpha) * (alpha * geom (1 - alpha) n) := by ring
    rw [this, ih]; ring

/-- the state is (count, `Σ oma^k x_(k)`) of the non-null window contents, newest at lag 0 -/
def EwmInv (oma : Rat) (s : Ewm) (q : List (Option Rat)) : Prop :=
  s.n = (valid q).length ∧ s.qx = ewmNum oma (valid q).reverse

theorem ewmInv_add (w mp : Nat) (s : Ewm) (q : List (Option Rat)) (v : Option Rat)
    (h : EwmInv (1 - 2 / (w : Rat)) s q) : EwmInv (1 - 2 / (w : Rat)) ((ewmRoll w mp).add s v) (q ++ [v]) := by
  obtain ⟨h1, h2⟩ := h
  cases v with
  | none => simp only [ewmRoll, EwmInv, valid_append_none]; exact ⟨h1, h2⟩
  | some v =>
    simp only [ewmRoll, valid_append_some, EwmInv, List.length_append, List.length_singleton,
      List.reverse_append, List.reverse_singleton, List.singleton_append, ewmNum]
    refine ⟨by rw [h1], ?_⟩
    rw [← h2]; ring

theorem ewmInv_remove (w mp : Nat) (s : Ewm) (x : Option Rat) (q : List (Option Rat))
    (h : EwmInv (1 - 2 / (w : Rat)) s (x :: q)) : EwmInv (1 - 2 / (w : Rat)) ((ewmRoll w mp).remove s x) q := by
  obtain ⟨h1, h2⟩ := h
  cases x with
  | none => simp only [ewmRoll]; rw [valid_cons_none] at h1 h2; exact ⟨h1, h2⟩
  | some v =>
    rw [valid_cons_some] at h1 h2
    simp only [List.length_cons] at h1
    simp only [List.reverse_cons, ewmNum_snoc, List.length_reverse] at h2
    simp only [ewmRoll, EwmInv]
    refine ⟨by rw [h1]; rfl, ?_⟩
    rw [h2, h1]
    simp only [Nat.add_sub_cancel]
    ring

theorem Out.div_mul_right (a b c : Rat) (hc : c ≠ 0) : Out.div (a * c) (c * b) = Out.div a b := by
  unfold Out.div
  by_cases hb : b = 0
  · rw [if_pos hb, if_pos (by rw [hb, mul_zero])]
  · rw [if_neg hb, if_neg (mul_ne_zero hc hb), mul_comm c b, mul_div_mul_right _ _ hc]

theorem ewm_emit (w mp : Nat) (hw : 1 ≤ w) (s : Ewm) (q : List (Option Rat))
    (h : EwmInv (1 - 2 / (w : Rat)) s q) : (ewmRoll w mp).emit s = Spec.tsEwm w mp (valid q) := by
  obtain ⟨h1, h2⟩ := h
  simp only [ewmRoll, Spec.tsEwm, Spec.masked, ← h1, ge_iff_le]
  split
  · have ha : (2 : Rat) / (w : Rat) ≠ 0 := div_ne_zero two_ne_zero (Nat.cast_ne_zero.2 (Nat.ne_of_gt hw))
    rw [← geom_closed, ← h2, Out.div_mul_right _ _ _ ha]
  · rfl

theorem wmaNum_snoc (r : List Rat) (v : Rat) : wmaNum (r ++ [v]) = wmaNum r + Spec.sum r + v := by
  induction r with
  | nil => simp [wmaNum, Spec.sum]
  | cons x r ih =>
    simp only [List.cons_append, wmaNum, ih, List.length_append, List.length_singleton, Spec.sum, List.foldr_cons]
    push_cast; ring

/-- `n (n + 1)` is even, so the division in `Nat` is exact -/
theorem tri_cast (n : Nat) : (((n * (n + 1)) / 2 : Nat) : Rat) = (n : Rat) * ((n : Rat) + 1) / 2 := by
  obtain ⟨k, hk⟩ := (Nat.even_mul_succ_self n).two_dvd
  rw [hk, Nat.mul_div_cancel_left k Nat.two_pos]
  have : (n : Rat) * ((n : Rat) + 1) = 2 * k := by exact_mod_cast hk
  rw [this, mul_div_cancel_left₀ _ two_ne_zero]

/-- the state is (count, plain sum, `Σ k x_k` with the newest weighted by the count) of the non-null
window contents -/
def WmaInv (s : Wma) (q : List (Option Rat)) : Prop :=
  s.n = (valid q).length ∧ s.sum = Spec.sum (valid q) ∧ s.sxt = wmaNum (valid q).reverse

theorem wmaInv_add (mp : Nat) (s : Wma) (q : List (Option Rat)) (v : Option Rat) (h : WmaInv s q) :
    WmaInv ((wmaRoll mp).add s v) (q ++ [v]) := by
  obtain ⟨h1, h2, h3⟩ := h
  cases v with
  | none => simp only [wmaRoll, WmaInv, valid_append_none]; exact ⟨h1, h2, h3⟩
  | some v =>
    simp only [wmaRoll, valid_append_some, WmaInv, List.length_append, List.length_singleton,
      List.reverse_append, List.reverse_singleton, List.singleton_append, wmaNum, sum_append_single,
      List.length_reverse]
    refine ⟨by rw [h1], by rw [h2], ?_⟩
    rw [h3, h1]; ring

theorem wmaInv_remove (mp : Nat) (s : Wma) (x : Option Rat) (q : List (Option Rat)) (h : WmaInv s (x :: q)) :
    WmaInv ((wmaRoll mp).remove s x) q := by
  obtain ⟨h1, h2, h3⟩ := h
  cases x with
  | none => simp only [wmaRoll]; rw [valid_cons_none] at h1 h2 h3; exact ⟨h1, h2, h3⟩
  | some v =>
    rw [valid_cons_some] at h1 h2 h3
    simp only [List.length_cons] at h1
    simp only [Spec.sum, List.foldr_cons] at h2
    simp only [List.reverse_cons, wmaNum_snoc, sum_reverse] at h3
    simp only [wmaRoll, WmaInv]
    refine ⟨by rw [h1]; rfl, ?_, ?_⟩
    · rw [h2]; simp only [Spec.sum]; ring
    · rw [h3, h2]; simp only [Spec.sum]; ring

theorem wma_emit (mp : Nat) (s : Wma) (q : List (Option Rat)) (h : WmaInv s q) :
    (wmaRoll mp).emit s = Spec.tsWma mp (valid q) := by
  obtain ⟨h1, _, h3⟩ := h
  simp only [wmaRoll, Spec.tsWma, Spec.masked, ← h1, ge_iff_le]
  split
  · rw [tri_cast, h3]
  · rfl

end Tv
