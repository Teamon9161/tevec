import Tv.Model.Features
import Tv.Spec.Stats
import Tv.Lemmas.Window
import Mathlib.Tactic.Ring
import Mathlib.Tactic.FieldSimp
import Mathlib.Tactic.Linarith
import Mathlib.Data.Rat.Defs
import Mathlib.Algebra.Order.Field.Rat
/-! Power sums vs. central moments: the algebra behind the additive rolling closures. -/
namespace Tv
open Tv.Spec

/-- power sums of a list, as the `Mom` accumulator -/
def momOf : List Rat → Mom
  | [] => Mom.zero
  | x :: l => let m := momOf l; ⟨m.n + 1, m.s1 + x, m.s2 + x * x, m.s3 + x * x * x, m.s4 + x * x * x * x⟩

@[simp] theorem momOf_n (l : List Rat) : (momOf l).n = l.length := by
  induction l with
  | nil => rfl
  | cons x l ih => simp [momOf, ih]

theorem momOf_snoc (l : List Rat) (v : Rat) : momOf (l ++ [v]) = (momOf l).add (some v) := by
  induction l with
  | nil => simp [momOf, Mom.add, Mom.zero]
  | cons x l ih =>
    simp only [List.cons_append, momOf, ih, Mom.add]
    congr 1 <;> exact add_right_comm _ _ _

theorem momOf_cons_remove (l : List Rat) (v : Rat) : (momOf (v :: l)).remove (some v) = momOf l := by
  simp only [momOf, Mom.remove]
  cases h : momOf l
  simp only [Nat.add_sub_cancel, Mom.mk.injEq, true_and]
  refine ⟨?_, ?_, ?_, ?_⟩ <;> ring

/-- the invariant of every additive closure: the state is the power sums of the non-null
elements currently in the window -/
def MomInv (s : Mom) (q : List (Option Rat)) : Prop := s = momOf (valid q)

theorem momInv_init : MomInv Mom.zero [] := rfl

theorem momInv_add (s : Mom) (q : List (Option Rat)) (v : Option Rat) (h : MomInv s q) :
    MomInv (s.add v) (q ++ [v]) := by
  unfold MomInv at *
  cases v with
  | none => rw [valid_append_none]; simpa [Mom.add] using h
  | some v => rw [valid_append_some, momOf_snoc, h]

theorem momInv_remove (s : Mom) (x : Option Rat) (q : List (Option Rat)) (h : MomInv s (x :: q)) :
    MomInv (s.remove x) q := by
  unfold MomInv at *
  cases x with
  | none => exact h
  | some v =>
    rw [valid_cons_some] at h
    rw [h, momOf_cons_remove]

theorem momOf_s1 (l : List Rat) : (momOf l).s1 = Spec.sum l := by
  induction l with
  | nil => rfl
  | cons x l ih => simp only [momOf, ih, Spec.sum, List.foldr_cons]; ring

theorem csum2_expand (c : Rat) (l : List Rat) :
    csum 2 c l = (momOf l).s2 - 2 * c * (momOf l).s1 + (l.length : Rat) * c ^ 2 := by
  induction l with
  | nil => simp [csum, Spec.sum, momOf, Mom.zero]
  | cons x l ih =>
    simp only [csum, Spec.sum, List.map_cons, List.foldr_cons, momOf, List.length_cons] at *
    rw [ih]; push_cast; ring

theorem csum3_expand (c : Rat) (l : List Rat) :
    csum 3 c l = (momOf l).s3 - 3 * c * (momOf l).s2 + 3 * c ^ 2 * (momOf l).s1 - (l.length : Rat) * c ^ 3 := by
  induction l with
  | nil => simp [csum, Spec.sum, momOf, Mom.zero]
  | cons x l ih =>
    simp only [csum, Spec.sum, List.map_cons, List.foldr_cons, momOf, List.length_cons] at *
    rw [ih]; push_cast; ring

theorem csum4_expand (c : Rat) (l : List Rat) :
    csum 4 c l = (momOf l).s4 - 4 * c * (momOf l).s3 + 6 * c ^ 2 * (momOf l).s2
      - 4 * c ^ 3 * (momOf l).s1 + (l.length : Rat) * c ^ 4 := by
  induction l with
  | nil => simp [csum, Spec.sum, momOf, Mom.zero]
  | cons x l ih =>
    simp only [csum, Spec.sum, List.map_cons, List.foldr_cons, momOf, List.length_cons] at *
    rw [ih]; push_cast; ring

theorem mean_eq (l : List Rat) : Spec.mean l = (momOf l).s1 / (l.length : Rat) := by
  simp [Spec.mean, momOf_s1]

theorem cast_len_ne_zero {l : List Rat} (h : 1 ≤ l.length) : (l.length : Rat) ≠ 0 :=
  Nat.cast_ne_zero.2 (Nat.ne_of_gt h)

theorem pvar_eq_cmom2 (l : List Rat) (hn : 1 ≤ l.length) : (momOf l).pvar = cmom 2 l := by
  have hn0 : (l.length : Rat) ≠ 0 := cast_len_ne_zero hn
  simp only [Mom.pvar, cmom, csum2_expand, mean_eq, momOf_n]
  field_simp
  ring

theorem m3_eq_cmom3 (l : List Rat) (hn : 1 ≤ l.length) :
    (momOf l).s3 / (l.length : Rat) - 3 * ((momOf l).s1 / (l.length : Rat)) * (momOf l).pvar
      - (momOf l).s1 / (l.length : Rat) * ((momOf l).s1 / (l.length : Rat)) * ((momOf l).s1 / (l.length : Rat))
    = cmom 3 l := by
  have hn0 : (l.length : Rat) ≠ 0 := cast_len_ne_zero hn
  simp only [Mom.pvar, cmom, csum3_expand, mean_eq, momOf_n]
  field_simp
  ring

theorem m4_eq_cmom4 (l : List Rat) (hn : 1 ≤ l.length) :
    let n : Rat := l.length
    let mean := (momOf l).s1 / n
    let var := (momOf l).pvar
    ((momOf l).s4 / n - 4 * mean * ((momOf l).s3 / n)) + 6 * (mean * mean) * var + 3 * (mean * mean) * (mean * mean)
      = cmom 4 l := by
  intro n mean var
  have hn0 : (l.length : Rat) ≠ 0 := cast_len_ne_zero hn
  simp only [n, mean, var, Mom.pvar, cmom, csum4_expand, mean_eq, momOf_n]
  field_simp
  ring

end Tv
