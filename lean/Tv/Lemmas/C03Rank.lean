import Tv.Lemmas.C03Sem
import Mathlib.Tactic.Ring
/-!
  `ts_vrank`: the O(w) recount equals the average rank of the current element among the
  non-null elements of its window.
-/
namespace Tv.C03
open Tv

theorem rankAcc_some (g : Nat → Option Rat) (v : Rat) (a b i : Nat) (x : Rat) (hg : g i = some x) :
    rankAcc g v (a, b) i = (a + if x < v then 1 else 0, b + if x = v then 1 else 0) := by
  unfold rankAcc
  rw [hg]
  show (if x < v then (a + 1, b) else if x = v then (a, b + 1) else (a, b)) = _
  by_cases h1 : x < v
  · rw [if_pos h1, if_pos h1, if_neg h1.ne]; rfl
  · by_cases h2 : x = v
    · rw [if_neg h1, if_neg h1, if_pos h2, if_pos h2]; rfl
    · rw [if_neg h1, if_neg h1, if_neg h2, if_neg h2]; rfl

theorem rank_foldl (g : Nat → Option Rat) (v : Rat) (l : List Nat) (a b : Nat) :
    l.foldl (rankAcc g v) (a, b)
      = (a + (l.filterMap g).countP (fun x => decide (x < v)),
         b + (l.filterMap g).countP (fun x => decide (x = v))) := by
  induction l generalizing a b with
  | nil => rfl
  | cons i r ih =>
    rw [List.foldl_cons, List.filterMap_cons]
    cases hg : g i with
    | none =>
      have : rankAcc g v (a, b) i = (a, b) := by unfold rankAcc; rw [hg]
      rw [this]; exact ih a b
    | some x =>
      rw [rankAcc_some g v a b i x hg, ih]
      simp only [List.countP_cons, decide_eq_true_eq]
      congr 1 <;> omega

theorem rankCount_eq (g : Nat → Option Rat) (lo e : Nat) (v : Rat) :
    rankCount g lo e v =
      (((List.range' lo (e - lo)).filterMap g).countP (fun x => decide (x < v)),
       ((List.range' lo (e - lo)).filterMap g).countP (fun x => decide (x = v))) := by
  unfold rankCount
  rw [rank_foldl]; simp

theorem tri_one (x v : Rat) :
    (if decide (x < v) = true then 1 else 0) + (if decide (x = v) = true then 1 else 0)
      + (if decide (v < x) = true then 1 else 0) = 1 := by
  simp only [decide_eq_true_eq]
  rcases lt_trichotomy x v with h | h | h
  · rw [if_pos h, if_neg h.ne, if_neg h.not_gt]
  · rw [if_neg h.not_lt, if_pos h, if_neg h.not_gt]
  · rw [if_neg h.not_gt, if_neg h.ne', if_pos h]

theorem count_trichotomy (v : Rat) (vs : List Rat) :
    vs.countP (fun x => decide (x < v)) + vs.countP (fun x => decide (x = v))
      + vs.countP (fun x => decide (v < x)) = vs.length := by
  induction vs with
  | nil => rfl
  | cons x r ih =>
    have := tri_one x v
    simp only [List.countP_cons, List.length_cons]
    omega

theorem count_trichotomy_cast (v : Rat) (vs : List Rat) :
    (vs.length : Rat) = (vs.countP (fun a => decide (a < v)) : Rat)
      + (vs.countP (fun a => decide (a = v)) : Rat) + (vs.countP (fun a => decide (v < a)) : Rat) := by
  rw [← count_trichotomy v vs]; push_cast; ring

theorem rankStep_inv (g : Nat → Option Rat) (W : Nat) (mp : Nat) (pct rev : Bool) (i n : Nat)
    (hn : n = cnt g (lo W i) i) :
    (rankStep g mp (W - 1) pct rev n (startAt W i, i, g i)).1 = cnt g (lo W (i+1)) (i+1) ∧
    (rankStep g mp (W - 1) pct rev n (startAt W i, i, g i)).2
      = Spec.tsRank mp pct rev (winL g (lo W i) i) := by
  obtain ⟨hn1, hn2⟩ := cnt_step g W i n hn
  have hlo := lo_le W i
  constructor
  · show (if i ≥ W - 1 then
            (match startAt W i with
             | some s => if (g s).isSome then (if (g i).isSome then n + 1 else n) - 1
                         else (if (g i).isSome then n + 1 else n)
             | none => (if (g i).isSome then n + 1 else n))
          else (if (g i).isSome then n + 1 else n)) = _
    by_cases hc : W - 1 ≤ i
    · simp only [ge_iff_le, hc, if_true]
      exact hn2
    · have : startAt W i = none := by simp [startAt, hc]
      rw [this] at hn2
      simp only [ge_iff_le, hc, if_false]
      exact hn2
  · unfold Spec.tsRank
    rw [winL_getLast? g _ _ hlo]
    cases hv : g i with
    | none => simp [rankStep]
    | some x =>
      have hn1' : n + 1 = cnt g (lo W i) (i+1) := by rw [← hn1]; simp [hv]
      simp only [rankStep, Option.isSome_some, if_true, Spec.masked]
      rw [vals_length_winL, ← hn1', startAt_getD, rankCount_eq]
      split
      · have hvals : Spec.vals (winL g (lo W i) i)
            = (List.range' (lo W i) (i - lo W i)).filterMap g ++ [x] := by
          rw [winL_snoc g _ _ hlo]
          unfold Spec.vals
          rw [List.filterMap_append, List.filterMap_map]
          simp [hv]
        generalize hM : (List.range' (lo W i) (i - lo W i)).filterMap g = M at hvals
        have hlen : n = M.length := by
          have := vals_length_winL g (lo W i) i
          rw [hvals, ← hn1'] at this
          simp at this; omega
        subst hlen
        rw [hvals]
        have key : (if (!rev) = true then
              (1 + (M.countP (fun a => decide (a < x)) : Rat))
                + 1 / 2 * ((1 + M.countP (fun a => decide (a = x)) - 1 : Nat) : Rat)
            else ((M.length + 1 + 1 : Nat) : Rat) - (1 + (M.countP (fun a => decide (a < x)) : Rat))
                - 1 / 2 * ((1 + M.countP (fun a => decide (a = x)) - 1 : Nat) : Rat))
            = Spec.avgRank rev x (M ++ [x]) := by
          unfold Spec.avgRank
          simp only [List.countP_append, List.countP_cons, List.countP_nil, lt_irrefl, decide_false,
            decide_true, Nat.add_sub_cancel_left]
          cases rev <;> simp only [Bool.not_true, Bool.not_false, if_true, if_false,
            Bool.false_eq_true] <;> push_cast
          · ring
          · rw [count_trichotomy_cast x M]; ring
        dsimp only
        rw [key]
        cases pct <;> simp
      · rfl

theorem rank_run (g : Nat → Option Rat) (W mp : Nat) (pct rev : Bool) (n : Nat) :
    runSt (rankStep g mp (W - 1) pct rev) 0 ((List.range n).map fun i => (startAt W i, i, g i))
      = (List.range n).map fun i => Spec.tsRank mp pct rev (winL g (lo W i) i) := by
  apply runSt_range (rankStep g mp (W - 1) pct rev) _ (fun i s => s = cnt g (lo W i) i)
  · show 0 = cnt g (lo W 0) 0
    rw [lo_zero, cnt_empty]
  · intro i s _ hP
    exact rankStep_inv g W mp pct rev i s hP

theorem tsVrank_exact (sh : Shape) (xs : List (Option Rat)) (w : Nat) (mp : Option Nat)
    (pct rev : Bool) (hw : 1 ≤ w) :
    tsVrank sh xs w mp pct rev =
      (List.range xs.length).map fun i =>
        Spec.tsRank (cmpMp mp w xs.length) pct rev (window xs i w) :=
  idxCalls_run_clamped _ _ _ sh xs w hw fun _ => rank_run (get xs) _ _ pct rev _

end Tv.C03
