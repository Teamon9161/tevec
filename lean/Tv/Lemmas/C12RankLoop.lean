import Tv.Lemmas.C12Rank
import Mathlib.Tactic.LinearCombination
/-!
The run-length loop of `vrank` and its invariant.

`Inv i st` (top of iteration `i`): there is a run start `a ≤ i` and a value `v` such that the sorted
positions `a..=i` all hold `v`, nothing before `a` does, `repeat_num = i+1-a`, `cur_rank = i+1`,
`sum_rank = (a+1) + … + i`, no `break` has happened, and every position before `a` already holds its
final (specified) rank (`RunInv … a v`). One lemma per branch of the loop body carries it to `i + 1`;
an unrepeated element is a run of length one.
-/
namespace Tv.C12
open Tv

/-- the specified rank of element `k` -/
def specAt (xs : List Elem) (pct rev : Bool) (k : Nat) : Out :=
  match xs.getD k none with
  | none => .null
  | some v => .val (Spec.avgRank xs pct rev v)

/-- slot `k` holds its specified rank -/
def Good (xs : List Elem) (pct rev : Bool) (out : List (Option Out)) (k : Nat) : Prop :=
  out[k]? = some (some (specAt xs pct rev k))

theorem specAt_W (xs : List Elem) (s : List Nat) (pct rev : Bool) (p : Nat) :
    specAt xs pct rev (s.getD p 0) =
      match W xs s p with
      | none => .null
      | some v => .val (Spec.avgRank xs pct rev v) := rfl

theorem run_value {xs : List Elem} {s : List Nat} {rev : Bool} (c : Ctx xs s rev) (pct : Bool)
    {a i sum : Nat} {v : Rat} (hai : a ≤ i) (hi : i < xs.length)
    (hrun : ∀ p, a ≤ p → p ≤ i → W xs s p = some v)
    (hbef : ∀ q, q < a → W xs s q ≠ some v)
    (haft : i + 1 < xs.length → W xs s (i + 1) ≠ some v)
    (hsum : 2 * sum = (i - a) * (a + i + 1)) :
    runVal pct (valid xs).length (sum + (i + 1)) (i + 1 - a) = .val (Spec.avgRank xs pct rev v) := by
  obtain ⟨hb, he⟩ := c.run_counts hai hi hrun hbef haft
  have hn : (valid xs).length ≠ 0 := by
    intro h0
    have := (c.W_none_iff hi).mpr (h0 ▸ Nat.zero_le i)
    rw [hrun i hai (Nat.le_refl _)] at this
    cases this
  obtain ⟨d, rfl⟩ : ∃ d, i = a + d := ⟨i - a, (Nat.add_sub_cancel' hai).symm⟩
  have hrep : a + d + 1 - a = d + 1 := by rw [Nat.add_assoc, Nat.add_sub_cancel_left]
  have hd : a + d - a = d := Nat.add_sub_cancel_left _ _
  rw [hd] at hsum
  rw [hrep] at he ⊢
  have hsumQ : (2 : Rat) * (sum : Rat) = (d : Rat) * ((a : Rat) + ((a : Rat) + (d : Rat)) + 1) := by
    exact_mod_cast hsum
  have hd1 : ((d + 1 : Nat) : Rat) ≠ 0 := Nat.cast_ne_zero.mpr (Nat.succ_ne_zero d)
  have hnQ : (((valid xs).length : Nat) : Rat) ≠ 0 := by exact_mod_cast hn
  unfold runVal Spec.avgRank
  have hbefore : (if rev then Spec.cntGt xs v else Spec.cntLt xs v) = a := hb
  simp only [hbefore, he]
  have hS : ((sum + (a + d + 1) : Nat) : Rat)
      = ((a : Rat) + (((d + 1 : Nat) : Rat) + 1) / 2) * ((d + 1 : Nat) : Rat) := by
    push_cast; linear_combination (1 / 2 : Rat) * hsumQ
  cases pct
  · have k1 : ((sum + (a + d + 1) : Nat) : Rat) / ((d + 1 : Nat) : Rat)
        = (a : Rat) + (((d + 1 : Nat) : Rat) + 1) / 2 := by
      rw [hS, mul_div_cancel_right₀ _ hd1]
    simp only [Bool.false_eq_true, if_false, Out.div, hd1]
    rw [k1]
  · have hden : (((d + 1) * (valid xs).length : Nat) : Rat) ≠ 0 := by
      rw [Nat.cast_mul]; exact mul_ne_zero hd1 hnQ
    have k2 : ((sum + (a + d + 1) : Nat) : Rat) / (((d + 1) * (valid xs).length : Nat) : Rat)
        = ((a : Rat) + (((d + 1 : Nat) : Rat) + 1) / 2) / (((valid xs).length : Nat) : Rat) := by
      rw [hS, Nat.cast_mul, mul_comm ((d + 1 : Nat) : Rat), mul_div_mul_right _ _ hd1]
    simp only [if_true, Out.div, hden, if_false]
    rw [k2]

theorem oneVal_eq (pct : Bool) (nn cur : Nat) : oneVal pct nn cur = runVal pct nn (0 + cur) 1 := by
  cases pct <;> simp [oneVal, runVal, Out.div]

/-- top of iteration `i`, the current run starting at `a` with value `v` -/
structure RunInv (xs : List Elem) (s : List Nat) (pct rev : Bool) (i : Nat) (st : RankSt) (a : Nat)
    (v : Rat) : Prop where
  hai : a ≤ i
  hi : i < xs.length
  rep : st.rep = i + 1 - a
  cur : st.cur = i + 1
  sum : 2 * st.sum = (i - a) * (a + i + 1)
  nan : st.nan = false
  len : st.out.length = xs.length
  run : ∀ p, a ≤ p → p ≤ i → W xs s p = some v
  bef : ∀ q, q < a → W xs s q ≠ some v
  good : ∀ q, q < a → Good xs pct rev st.out (s.getD q 0)

def Inv (xs : List Elem) (s : List Nat) (pct rev : Bool) (i : Nat) (st : RankSt) : Prop :=
  ∃ a v, RunInv xs s pct rev i st a v

def Post (xs : List Elem) (s : List Nat) (pct rev : Bool) (st : RankSt) : Prop :=
  st.out.length = xs.length ∧
  ((st.nan = false ∧ Inv xs s pct rev (xs.length - 1) st) ∨
   (st.nan = true ∧ st.idx = (valid xs).length ∧ (valid xs).length < xs.length ∧
     ∀ q, q < (valid xs).length → Good xs pct rev st.out (s.getD q 0)))

namespace RunInv
variable {xs : List Elem} {s : List Nat} {pct rev : Bool} {i a : Nat} {st : RankSt} {v : Rat}

/-- a state in which a run has just begun at `j` -/
theorem start {j : Nat} {v1 : Rat} (hj : j < xs.length) (hv1 : W xs s j = some v1)
    (hbef : ∀ q, q < j → W xs s q ≠ some v1) (hrep : st.rep = 1) (hsum : st.sum = 0)
    (hcur : st.cur = j + 1) (hnan : st.nan = false) (hlen : st.out.length = xs.length)
    (hg : ∀ q, q < j → Good xs pct rev st.out (s.getD q 0)) : RunInv xs s pct rev j st j v1 where
  hai := Nat.le_refl _
  hi := hj
  rep := by rw [hrep, Nat.add_sub_cancel_left]
  cur := hcur
  sum := by rw [hsum, Nat.sub_self, Nat.zero_mul]
  nan := hnan
  len := hlen
  run := fun p h1 h2 => Nat.le_antisymm h1 h2 ▸ hv1
  bef := hbef
  good := hg

/-- after the slots of the run `a..=i` received the run's value, every position `≤ i` is final -/
theorem closed (c : Ctx xs s rev) (r : RunInv xs s pct rev i st a v)
    (haft : i + 1 < xs.length → W xs s (i + 1) ≠ some v) (out' : List (Option Out))
    (hhit : ∀ p, a ≤ p → p ≤ i →
      out'[s.getD p 0]? = some (some (runVal pct (valid xs).length (st.sum + st.cur) st.rep)))
    (hmiss : ∀ k, (∀ p, a ≤ p → p ≤ i → s.getD p 0 ≠ k) → out'[k]? = st.out[k]?) :
    ∀ q, q < i + 1 → Good xs pct rev out' (s.getD q 0) := by
  intro q hq
  have hi := r.hi
  unfold Good
  by_cases hqa : q < a
  · rw [hmiss (s.getD q 0) (fun p hp1 hp2 he =>
      Nat.not_le_of_lt hqa (c.sI_inj (Nat.lt_of_le_of_lt hp2 hi)
        (Nat.lt_of_le_of_lt (Nat.le_of_lt_succ hq) hi) he ▸ hp1))]
    exact r.good q hqa
  · have hqa := Nat.le_of_not_lt hqa
    have hqi := Nat.le_of_lt_succ hq
    rw [hhit q hqa hqi, specAt_W, r.run q hqa hqi, r.cur, r.rep,
      run_value c pct r.hai hi r.run r.bef haft r.sum]

/-- … in particular after the inner write loop -/
theorem closed_write (c : Ctx xs s rev) (r : RunInv xs s pct rev i st a v)
    (haft : i + 1 < xs.length → W xs s (i + 1) ≠ some v) :
    ∀ q, q < i + 1 → Good xs pct rev
      (writeRun s st.out i (runVal pct (valid xs).length (st.sum + st.cur) st.rep) st.rep)
      (s.getD q 0) := by
  have hai := r.hai
  have hi := r.hi
  refine r.closed c haft _ (fun p hp1 hp2 => ?_) (fun k hk => ?_)
  · have h := writeRun_hit s st.out i (runVal pct (valid xs).length (st.sum + st.cur) st.rep)
      st.rep (i - p) (by rw [r.rep]; omega)
      (by rw [r.len, Nat.sub_sub_self hp2]; exact c.sI_lt (Nat.lt_of_le_of_lt hp2 hi))
    rwa [Nat.sub_sub_self hp2] at h
  · exact writeRun_miss s st.out i _ _ k
      (fun r' hr' => hk (i - r') (by rw [r.rep] at hr'; omega) (Nat.sub_le i r'))

theorem value_at (r : RunInv xs s pct rev i st a v) : W xs s i = some v := r.run i r.hai (Nat.le_refl _)

theorem lt_valid (c : Ctx xs s rev) (r : RunInv xs s pct rev i st a v) : i < (valid xs).length := by
  by_contra h
  have := (c.W_none_iff r.hi).mpr (Nat.le_of_not_lt h)
  rw [r.value_at] at this
  cases this

end RunInv

def stBreak (s : List Nat) (pct : Bool) (nn i : Nat) (st : RankSt) : RankSt :=
  { st with sum := st.sum + st.cur, cur := st.cur + 1,
            out := writeRun s st.out i (runVal pct nn (st.sum + st.cur) st.rep) st.rep,
            idx := i + 1, nan := true }

def stRepeat (s : List Nat) (i : Nat) (st : RankSt) : RankSt :=
  { st with rep := st.rep + 1, sum := st.sum + st.cur, cur := st.cur + 1, idx := s.getD i 0 }

def stOne (s : List Nat) (pct : Bool) (nn i : Nat) (st : RankSt) : RankSt :=
  { st with out := st.out.set (s.getD i 0) (some (oneVal pct nn st.cur)), cur := st.cur + 1,
            idx := s.getD i 0 }

def stGroup (s : List Nat) (pct : Bool) (nn i : Nat) (st : RankSt) : RankSt :=
  { st with out := writeRun s st.out i (runVal pct nn (st.sum + st.cur) st.rep) st.rep,
            sum := 0, rep := 1, cur := st.cur + 1, idx := s.getD i 0 }

theorem rankLoop_succ (xs : List Elem) (s : List Nat) (pct : Bool) (nn i k : Nat) (st : RankSt) :
    rankLoop xs s pct nn i (k + 1) st =
      if W xs s (i + 1) = none then stBreak s pct nn i st
      else if W xs s i = W xs s (i + 1) then rankLoop xs s pct nn (i + 1) k (stRepeat s i st)
      else if st.rep = 1 then rankLoop xs s pct nn (i + 1) k (stOne s pct nn i st)
      else rankLoop xs s pct nn (i + 1) k (stGroup s pct nn i st) := by
  rw [rankLoop]
  rfl

theorem stOne_eq_stGroup (s : List Nat) (pct : Bool) (nn i : Nat) (st : RankSt) (hrep : st.rep = 1)
    (hsum : st.sum = 0) : stOne s pct nn i st = stGroup s pct nn i st := by
  unfold stOne stGroup
  rw [hrep, hsum, oneVal_eq]
  rfl

/-- `sum_rank = (a+1) + … + i` gains `cur_rank = i + 1` when the run grows by one -/
theorem sum_grow {a i sum : Nat} (hai : a ≤ i) (h : 2 * sum = (i - a) * (a + i + 1)) :
    2 * (sum + (i + 1)) = (i + 1 - a) * (a + (i + 1) + 1) := by
  obtain ⟨d, rfl⟩ : ∃ d, i = a + d := ⟨i - a, by omega⟩
  rw [Nat.add_sub_cancel_left] at h
  rw [show a + d + 1 - a = d + 1 by omega, Nat.mul_add, h]
  ring

namespace RunInv
variable {xs : List Elem} {s : List Nat} {pct rev : Bool} {i a : Nat} {st : RankSt} {v : Rat}

theorem step_repeat (r : RunInv xs s pct rev i st a v) (hi1 : i + 1 < xs.length)
    (h2 : W xs s i = W xs s (i + 1)) : RunInv xs s pct rev (i + 1) (stRepeat s i st) a v where
  hai := Nat.le_succ_of_le r.hai
  hi := hi1
  rep := by have := r.hai; show st.rep + 1 = _; rw [r.rep]; omega
  cur := by show st.cur + 1 = _; rw [r.cur]
  sum := by show 2 * (st.sum + st.cur) = _; rw [r.cur]; exact sum_grow r.hai r.sum
  nan := r.nan
  len := r.len
  run := fun p hp1 hp2 => by
    rcases Nat.lt_or_eq_of_le hp2 with h | h
    · exact r.run p hp1 (Nat.le_of_lt_succ h)
    · rw [h, ← h2]; exact r.value_at
  bef := r.bef
  good := r.good

/-- the run ends at `i` and the next value `v1` starts one at `i + 1` -/
theorem step_group (c : Ctx xs s rev) (r : RunInv xs s pct rev i st a v) (hi1 : i + 1 < xs.length)
    {v1 : Rat} (hv1 : W xs s (i + 1) = some v1) (h2 : W xs s i ≠ W xs s (i + 1)) :
    RunInv xs s pct rev (i + 1) (stGroup s pct (valid xs).length i st) (i + 1) v1 := by
  have hWi := r.value_at
  refine start hi1 hv1 (fun q hq he => ?_) rfl rfl (by show st.cur + 1 = _; rw [r.cur]) r.nan
    (by show (writeRun _ _ _ _ _).length = _; rw [writeRun_length, r.len])
    (r.closed_write c (fun _ h => h2 (by rw [hWi, h])))
  have l1 : leE rev (W xs s q) (W xs s i) = true := c.sorted q i (Nat.le_of_lt_succ hq) r.hi
  have l2 : leE rev (W xs s i) (W xs s (i + 1)) = true := c.sorted i (i + 1) (Nat.le_succ i) hi1
  rw [hv1, ← he] at l2
  exact h2 (by rw [leE_antisymm rev _ _ l2 l1, he, hv1])

/-- the next value is null: the run is written, the nulls from `i + 1` on are left to `rankFinish` -/
theorem step_break (c : Ctx xs s rev) (r : RunInv xs s pct rev i st a v) (hi1 : i + 1 < xs.length)
    (h1 : W xs s (i + 1) = none) : Post xs s pct rev (stBreak s pct (valid xs).length i st) := by
  have hn : (valid xs).length = i + 1 :=
    Nat.le_antisymm ((c.W_none_iff hi1).mp h1) (r.lt_valid c)
  have hg := r.closed_write c (fun _ h => by rw [h1] at h; cases h)
  rw [← hn] at hg hi1
  exact ⟨by show (writeRun _ _ _ _ _).length = _; rw [writeRun_length, r.len],
    Or.inr ⟨rfl, hn.symm, hi1, hg⟩⟩

end RunInv

theorem rankLoop_spec {xs : List Elem} {s : List Nat} {rev : Bool} (c : Ctx xs s rev) (pct : Bool) :
    ∀ (k i : Nat) (st : RankSt), i + k = xs.length - 1 → Inv xs s pct rev i st →
      Post xs s pct rev (rankLoop xs s pct (valid xs).length i k st) := by
  intro k
  induction k with
  | zero =>
    intro i st hik hinv
    obtain ⟨a, v, r⟩ := hinv
    have hi : i = xs.length - 1 := hik
    exact ⟨r.len, Or.inl ⟨r.nan, a, v, hi ▸ r⟩⟩
  | succ k ih =>
    intro i st hik ⟨a, v, r⟩
    have hi1 : i + 1 < xs.length := by omega
    have hik' : i + 1 + k = xs.length - 1 := by omega
    rw [rankLoop_succ]
    by_cases h1 : W xs s (i + 1) = none
    · rw [if_pos h1]
      exact r.step_break c hi1 h1
    rw [if_neg h1]
    by_cases h2 : W xs s i = W xs s (i + 1)
    · rw [if_pos h2]
      exact ih (i + 1) _ hik' ⟨a, v, r.step_repeat hi1 h2⟩
    rw [if_neg h2]
    obtain ⟨v1, hv1⟩ := Option.ne_none_iff_exists'.mp h1
    have hg := ih (i + 1) _ hik' ⟨i + 1, v1, r.step_group c hi1 hv1 h2⟩
    by_cases h3 : st.rep = 1
    · have hs0 : st.sum = 0 := by
        have h := r.sum
        rw [show i - a = 0 by have := r.rep; have := r.hai; omega, Nat.zero_mul] at h
        omega
      rw [if_pos h3, stOne_eq_stGroup s pct _ i st h3 hs0]
      exact hg
    · rw [if_neg h3]
      exact hg

theorem rankFinish_spec {xs : List Elem} {s : List Nat} {rev : Bool} (c : Ctx xs s rev) (pct : Bool)
    (st : RankSt) (hpost : Post xs s pct rev st) :
    (rankFinish s pct (valid xs).length xs.length st).length = xs.length ∧
    ∀ q, q < xs.length →
      Good xs pct rev (rankFinish s pct (valid xs).length xs.length st) (s.getD q 0) := by
  obtain ⟨hlen, hcase⟩ := hpost
  unfold rankFinish
  rcases hcase with ⟨hnan, a, v, r⟩ | ⟨hnan, hidx, hnl, hgood⟩
  · -- no break: the last run ends at `len - 1`
    rw [hnan, if_neg Bool.false_ne_true]
    refine ⟨by rw [setAll_length, hlen], ?_⟩
    have hai := r.hai
    have hi := r.hi
    have hrep := r.rep
    have hmem : ∀ p, p ∈ List.range' (xs.length - st.rep) st.rep ↔ a ≤ p ∧ p ≤ xs.length - 1 := by
      intro p; rw [List.mem_range'_1]; omega
    have hg := r.closed c (fun h => absurd h (by omega)) _
      (fun p hp1 hp2 =>
        setAll_hit s _ _ _ p ((hmem p).mpr ⟨hp1, hp2⟩)
          (by rw [hlen]; exact c.sI_lt (Nat.lt_of_le_of_lt hp2 hi)))
      (fun k hk =>
        setAll_miss s _ _ _ k (fun p hp => hk p ((hmem p).mp hp).1 ((hmem p).mp hp).2))
    intro q hq
    exact hg q (by omega)
  · -- break: the nulls from position `n` on
    rw [hnan, if_pos rfl, hidx]
    refine ⟨by rw [setAll_length, hlen], ?_⟩
    have hmem : ∀ p, p ∈ List.range' (valid xs).length (xs.length - (valid xs).length) ↔
        (valid xs).length ≤ p ∧ p < xs.length := by
      intro p; rw [List.mem_range'_1]; omega
    intro q hq
    unfold Good
    by_cases hqn : q < (valid xs).length
    · rw [setAll_miss s _ _ _ _ (fun p hp he =>
        Nat.not_le_of_lt hqn (c.sI_inj ((hmem p).mp hp).2 hq he ▸ ((hmem p).mp hp).1))]
      exact hgood q hqn
    · have hqn := Nat.le_of_not_lt hqn
      rw [setAll_hit s _ _ _ q ((hmem q).mpr ⟨hqn, hq⟩) (by rw [hlen]; exact c.sI_lt hq),
        specAt_W, (c.W_none_iff hq).mpr hqn]

theorem all_good_eq {xs : List Elem} {s : List Nat} {rev : Bool} (c : Ctx xs s rev) (pct : Bool)
    (out : List (Option Out)) (hlen : out.length = xs.length)
    (h : ∀ q, q < xs.length → Good xs pct rev out (s.getD q 0)) :
    out = (Spec.rank xs pct rev).map some := by
  apply List.ext_getElem?
  intro k
  by_cases hk : k < xs.length
  · obtain ⟨p, hp, rfl⟩ := c.sI_surj hk
    rw [h p hp]
    unfold specAt Spec.rank
    rw [List.getElem?_map, List.getElem?_map, List.getElem?_eq_getElem hk, getD_of_lt xs none hk]
    simp only [Option.map_some]
    cases xs[s.getD p 0] <;> rfl
  · rw [List.getElem?_eq_none (by omega), List.getElem?_eq_none (by simp [Spec.rank]; omega)]

theorem rank_all_null (xs : List Elem) (pct rev : Bool) (h : (valid xs).length = 0) :
    (Spec.rank xs pct rev).map some = List.replicate xs.length (some .null) := by
  have hall : ∀ x ∈ xs, x = none := by
    intro x hx
    cases x with
    | none => rfl
    | some v =>
      have : v ∈ valid xs := by
        unfold valid; exact List.mem_filterMap.mpr ⟨some v, hx, rfl⟩
      rw [List.length_eq_zero_iff.mp h] at this; cases this
  unfold Spec.rank
  rw [List.map_map]
  rw [List.map_congr_left (g := fun _ => some Out.null) (by
    intro x hx; rw [hall x hx]; rfl)]
  exact List.map_const'

theorem avgRank_single (v : Rat) (pct rev : Bool) : Spec.avgRank [some v] pct rev v = 1 := by
  unfold Spec.avgRank Spec.cntLt Spec.cntGt Spec.cntEq
  have hv : valid [some v] = [v] := by simp [valid]
  rw [hv]
  cases rev <;> cases pct <;> simp

theorem vrank_spec {S : Std} (hS : S.Ok) (xs : List Elem) (pct rev : Bool) :
    vrank S xs pct rev = (Spec.rank xs pct rev).map some := by
  unfold vrank
  simp only []
  by_cases h0 : xs.length = 0
  · rw [if_pos h0]
    have : xs = [] := List.length_eq_zero_iff.mp h0
    subst this; rfl
  · rw [if_neg h0]
    by_cases h1 : xs.length = 1
    · rw [if_pos h1]
      obtain ⟨x, rfl⟩ := List.length_eq_one_iff.mp h1
      cases x with
      | none => rfl
      | some v => simp [Spec.rank, avgRank_single]
    · rw [if_neg h1]
      have c := hS.ctx xs rev
      generalize S.sort (leIdx rev xs) (List.range xs.length) = s at c ⊢
      by_cases hfirst : xs.getD (s.getD 0 0) none = none
      · rw [if_pos hfirst]
        have hW : W xs s 0 = none := hfirst
        have hn : (valid xs).length = 0 := by
          have := (c.W_none_iff (show 0 < xs.length by omega)).mp hW
          omega
        rw [rank_all_null xs pct rev hn]
      · rw [if_neg hfirst]
        obtain ⟨v0, hv0⟩ : ∃ v0, W xs s 0 = some v0 := Option.ne_none_iff_exists'.mp hfirst
        have hinv : Inv xs s pct rev 0
            { out := List.replicate xs.length none, rep := 1, sum := 0, cur := 1, idx := 0, nan := false } :=
          ⟨0, v0, RunInv.start (by omega) hv0 (fun q hq => absurd hq (Nat.not_lt_zero q)) rfl rfl rfl rfl
            List.length_replicate (fun q hq => absurd hq (Nat.not_lt_zero q))⟩
        have hpost := rankLoop_spec c pct (xs.length - 1) 0 _ (by omega) hinv
        obtain ⟨hlen, hgood⟩ := rankFinish_spec c pct _ hpost
        exact all_good_eq c pct _ hlen hgood

end Tv.C12
