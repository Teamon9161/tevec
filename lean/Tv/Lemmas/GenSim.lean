import Tv.Model.Basic
import Mathlib.Data.List.Forall2
/-!
  Simulation between a closure *regenerated from the Rust source* (`Tv.Gen.<fn>.step`, written by
  translator/closures.py on every run) and the hand-written model (`Roll`).

  `Agree sqrt o t` : the generated result `o` (`none` = the literal `f64::NAN`) is what the model
  token `t` denotes, reading `sqrt` as the square root; `degen` (a zero denominator: NaN or ±inf in
  Rust, a totalised `x / 0 = 0` in the generated `Rat` code) is exempt.
-/
namespace Tv.GenSim
open Tv

def Agree (sqrt : Rat → Rat) (o : Option Rat) : Out → Prop
  | .null => o = none
  | .val q => o = some q
  | .root s sq => o = some ((s : Rat) * sqrt sq)
  | .degen => True

/-- weak form for closed forms the model rewrote under the root sign: only the null mask, the
exact (`val`) outputs and the branch structure are compared; of an output under a root (`std`, `skew`
and the like) it says that there is a number, nothing about which -/
def AgreeW (o : Option Rat) : Out → Prop
  | .null => o = none
  | .val q => o = some q
  | .root _ _ => o.isSome
  | .degen => True

theorem Agree.weaken {sqrt : Rat → Rat} {o : Option Rat} {t : Out} (h : Agree sqrt o t) : AgreeW o t := by
  cases t <;> simp_all [Agree, AgreeW]

/-- run a generated step function over the driver's callback arguments (`Roll.run` for a step
function in the curried form the translator prints) -/
def genRun {σ α β : Type} (step : σ → Option α → α → σ × β) : σ → List (Option α × α) → List β
  | _, [] => []
  | s, (rm, v) :: cs => let p := step s rm v; p.2 :: genRun step p.1 cs

theorem genRun_length {σ α β : Type} (step : σ → Option α → α → σ × β) (s : σ) (cs : List (Option α × α)) :
    (genRun step s cs).length = cs.length := by
  induction cs generalizing s with
  | nil => rfl
  | cons c cs ih => obtain ⟨rm, v⟩ := c; simp [genRun, ih]

/-- how the model sees the callback arguments of a closure whose element type is embedded by `ι`
(`id` for the null-aware closures, `some` for the plain ones) -/
def mapCalls {α α' : Type} (ι : α → α') (cs : List (Option α × α)) : List (Option α' × α') :=
  cs.map fun c => (c.1.map ι, ι c.2)

theorem mapCalls_id {α : Type} (cs : List (Option α × α)) : mapCalls id cs = cs := by
  induction cs with
  | nil => rfl
  | cons c cs ih => obtain ⟨rm, v⟩ := c; cases rm <;> simp_all [mapCalls]

/-- **Simulation.** If a relation between generated and model state holds initially and every
step preserves it and produces agreeing results, the two runs agree position by position — for
every sequence of callback arguments, of any length. -/
theorem run_sim {σ τ α α' β γ : Type} (ι : α → α') (step : σ → Option α → α → σ × β) (r : Roll τ α' γ)
    (R : σ → τ → Prop) (A : β → γ → Prop)
    (hstep : ∀ g m rm v, R g m →
      R (step g rm v).1 (r.step m (rm.map ι) (ι v)).1 ∧ A (step g rm v).2 (r.step m (rm.map ι) (ι v)).2) :
    ∀ (cs : List (Option α × α)) (g : σ) (m : τ), R g m →
      List.Forall₂ A (genRun step g cs) (r.run m (mapCalls ι cs)) := by
  intro cs
  induction cs with
  | nil => intro g m _; exact List.Forall₂.nil
  | cons c cs ih =>
    intro g m h
    obtain ⟨rm, v⟩ := c
    obtain ⟨h1, h2⟩ := hstep g m rm v h
    exact List.Forall₂.cons h2 (ih _ _ h1)

theorem getElem?_of_forall₂ {α β : Type} {A : α → β → Prop} {l1 : List α} {l2 : List β}
    (h : List.Forall₂ A l1 l2) {i : Nat} {b : β} (hb : l2[i]? = some b) : ∃ a, l1[i]? = some a ∧ A a b := by
  induction h generalizing i with
  | nil => cases hb
  | cons hab _ ih =>
    cases i with
    | zero => cases hb; exact ⟨_, rfl, hab⟩
    | succ i => exact ih hb

theorem forall₂_map {α β γ : Type} {A : β → γ → Prop} {f : α → β} {g : α → γ} (h : ∀ a, A (f a) (g a))
    (l : List α) : List.Forall₂ A (l.map f) (l.map g) := by
  induction l with
  | nil => exact List.Forall₂.nil
  | cons a l ih => exact List.Forall₂.cons (h a) ih

/-- the step obligation of `run_sim` for a closure printed as `pre` (everything up to the result) and
`post` (the removal): `step_eq` is proved in the generated file -/
theorem hstep_of_pre {σ τ α α' β γ : Type} (ι : α → α') (step : σ → Option α → α → σ × β)
    (pre : σ → α → σ × β) (post : σ → Option α → σ)
    (r : Roll τ α' γ) (R : σ → τ → Prop) (A : β → γ → Prop)
    (hs : ∀ s rm v, step s rm v = (post (pre s v).1 rm, (pre s v).2))
    (hpre : ∀ g m v, R g m → R (pre g v).1 (r.add m (ι v)) ∧ A (pre g v).2 (r.emit (r.add m (ι v))))
    (hpost : ∀ g m x, R g m → R (post g (some x)) (r.remove m (ι x)))
    (hpost0 : ∀ g, post g none = g) :
    ∀ g m rm v, R g m →
      R (step g rm v).1 (r.step m (rm.map ι) (ι v)).1 ∧ A (step g rm v).2 (r.step m (rm.map ι) (ι v)).2 := by
  intro g m rm v h
  rw [hs]
  obtain ⟨ha, he⟩ := hpre g m v h
  refine ⟨?_, he⟩
  cases rm with
  | none => simpa [Roll.step, hpost0] using ha
  | some x => simpa [Roll.step] using hpost _ _ x ha

/-- the same from the three parts of a closure whose `pre` is printed as `add` and `emit` (`pre_eq` is
proved in the generated file) -/
theorem hstep_of_parts {σ τ α α' β γ : Type} (ι : α → α') (step : σ → Option α → α → σ × β)
    (pre : σ → α → σ × β) (post : σ → Option α → σ) (add : σ → α → σ) (emit : σ → α → β)
    (r : Roll τ α' γ) (R : σ → τ → Prop) (A : β → γ → Prop)
    (hs : ∀ s rm v, step s rm v = (post (pre s v).1 rm, (pre s v).2))
    (hp : ∀ s v, pre s v = (add s v, emit (add s v) v))
    (hadd : ∀ g m v, R g m → R (add g v) (r.add m (ι v)))
    (hpost : ∀ g m x, R g m → R (post g (some x)) (r.remove m (ι x)))
    (hpost0 : ∀ g, post g none = g)
    (hemit : ∀ g m v, R g m → A (emit g v) (r.emit m)) :
    ∀ g m rm v, R g m →
      R (step g rm v).1 (r.step m (rm.map ι) (ι v)).1 ∧ A (step g rm v).2 (r.step m (rm.map ι) (ι v)).2 :=
  hstep_of_pre ι step pre post r R A hs
    (fun g m v h => by rw [hp]; exact ⟨hadd g m v h, hemit _ _ v (hadd g m v h)⟩) hpost hpost0

/-- the drivers are natural in the element type: mapping the series maps the callback arguments -/
theorem applyCalls_map {α α' : Type} (ι : α → α') (sh : Shape) (xs : List α) (w : Nat) :
    applyCalls sh (xs.map ι) w = mapCalls ι (applyCalls sh xs w) := by
  unfold applyCalls mapCalls
  rw [List.length_map, List.map_filterMap]
  refine List.filterMap_congr fun ⟨s, e⟩ _ => ?_
  simp only [List.getElem?_map]
  cases xs[e]? with
  | none => rfl
  | some v => cases s with
    | none => rfl
    | some s => simp only [Option.bind_some]; cases xs[s]? <;> rfl

theorem apply2Calls_map {α α' β β' : Type} (ι : α → α') (κ : β → β') (sh : Shape) (xs : List α) (ys : List β) (w : Nat) :
    apply2Calls sh (xs.map ι) (ys.map κ) w = mapCalls (Prod.map ι κ) (apply2Calls sh xs ys w) := by
  unfold apply2Calls mapCalls
  rw [List.length_map, List.map_filterMap]
  refine List.filterMap_congr fun ⟨s, e⟩ _ => ?_
  simp only [List.getElem?_map]
  cases xs[e]? <;> cases ys[e]? <;> try rfl
  cases s with
  | none => rfl
  | some s =>
    simp only [Option.bind_some]
    cases xs[s]? <;> cases ys[s]? <;> rfl

end Tv.GenSim
