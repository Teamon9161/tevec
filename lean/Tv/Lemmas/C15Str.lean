import Tv.Lemmas.C15
/-!
  C15 — `to_string` of a number or bool is never the null string `"None"` (every character is a
  digit, `-` or `.`; `true`, `false`, `inf`, `-inf`, `NaN` are checked directly).
-/
namespace Tv.C15

/-- characters a number can be printed with -/
def OkChar (c : Char) : Prop := c.isDigit = true ∨ c = '-' ∨ c = '.'

def AllOk (s : String) : Prop := ∀ c ∈ s.toList, OkChar c

theorem AllOk.append {s t : String} (hs : AllOk s) (ht : AllOk t) : AllOk (s ++ t) := by
  intro c hc
  rw [String.toList_append, List.mem_append] at hc
  exact hc.elim (hs c) (ht c)

theorem allOk_natRepr (n : Nat) : AllOk n.repr := by
  intro c hc
  rw [Nat.toList_repr] at hc
  exact Or.inl (Nat.isDigit_of_mem_toDigits (by decide) (by decide) hc)

theorem allOk_int (i : Int) : AllOk (toString i) := by
  rw [Int.toString_eq_repr, Int.repr_eq_if]
  split
  · exact allOk_natRepr _
  · refine AllOk.append ?_ (allOk_natRepr _)
    intro c hc
    have : c = '-' := by simpa using hc
    exact Or.inr (Or.inl this)

theorem AllOk.ne_None {s : String} (h : AllOk s) : s ≠ "None" := by
  rintro rfl
  have := h 'N' (by decide)
  revert this; unfold OkChar; decide

theorem allOk_ofList {l : List Char} (h : ∀ c ∈ l, OkChar c) : AllOk (String.ofList l) := by
  intro c hc; rw [String.toList_ofList] at hc; exact h c hc

theorem allOk_showDyadic (q : Rat) : AllOk (showDyadic q) := by
  unfold showDyadic
  split
  · exact allOk_int _
  · simp only []
    have hd : ∀ c ∈ List.replicate (Nat.log2 q.den + 1 - (toString (q.num.natAbs * 5 ^ Nat.log2 q.den)).toList.length) '0' ++
        (toString (q.num.natAbs * 5 ^ Nat.log2 q.den)).toList, OkChar c := by
      intro c hc
      rw [List.mem_append] at hc
      rcases hc with hc | hc
      · rw [List.mem_replicate] at hc; rw [hc.2]; exact Or.inl (by decide)
      · exact allOk_natRepr _ c (by simpa using hc)
    refine AllOk.append (AllOk.append (AllOk.append ?_ ?_) ?_) ?_
    · split
      · intro c hc; have : c = '-' := by simpa using hc
        exact Or.inr (Or.inl this)
      · intro c hc; simp at hc
    · exact allOk_ofList fun c hc => hd c (List.mem_of_mem_take hc)
    · intro c hc; have : c = '.' := by simpa using hc
      exact Or.inr (Or.inr this)
    · exact allOk_ofList fun c hc => hd c (List.mem_of_mem_drop hc)

/-- the `Display` form of any integer, float or bool value is not the null string -/
theorem displayVal_ne_None (b : Base) (hb : b.inLattice = true) (v : Val) (hv : ValOf b v) :
    displayVal v ≠ "None" := by
  cases v with
  | int i => exact (allOk_int i).ne_None
  | bool c => cases c <;> decide
  | flt x =>
    cases x with
    | fin q => exact (allOk_showDyadic q).ne_None
    | nan => decide
    | inf n => cases n <;> decide
  | str s => cases b <;> first | contradiction | exact hv.elim
  | td m n => cases b <;> first | contradiction | exact hv.elim

end Tv.C15
