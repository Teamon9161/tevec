import Tv.Lemmas.C12Part
import Tv.Lemmas.C12Floor
/-!
`vquantile` against `Spec.quantile`. The selection at `⌈t⌉` exposes both neighbours of the fractional
index `t`: the selected element and the extreme of the head (`select_neighbours`); the two branches of
the kernel are then the spec's interpolation (the arithmetic of `t` is in `Lemmas/C12Floor.lean`).
-/
namespace Tv.C12
open Tv

/-- a fold that keeps one of its two arguments, the `R`-larger one, ends on an `R`-largest member -/
theorem foldl_pick_spec {R : Rat → Rat → Prop} (hrefl : ∀ a, R a a)
    (htrans : ∀ a b c, R a b → R b c → R a c) {step : Option Rat → Rat → Option Rat}
    (hstep : ∀ v x, (step (some v) x = some x ∧ R v x) ∨ (step (some v) x = some v ∧ R x v))
    (l : List Rat) (a : Rat) :
    ∃ v, l.foldl step (some a) = some v ∧ v ∈ a :: l ∧ ∀ x ∈ a :: l, R x v := by
  induction l generalizing a with
  | nil => exact ⟨a, rfl, List.mem_cons_self, fun x hx => (List.mem_singleton.mp hx) ▸ hrefl a⟩
  | cons b l ih =>
    rw [List.foldl_cons]
    rcases hstep a b with ⟨e, hr⟩ | ⟨e, hr⟩
    · obtain ⟨v, hv, hm, hub⟩ := ih b
      have hb := (List.forall_mem_cons.mp hub).1
      exact ⟨v, e.symm ▸ hv, List.mem_cons_of_mem _ hm, List.forall_mem_cons.mpr ⟨htrans _ _ _ hr hb, hub⟩⟩
    · obtain ⟨v, hv, hm, hub⟩ := ih a
      obtain ⟨ha, hl⟩ := List.forall_mem_cons.mp hub
      refine ⟨v, e.symm ▸ hv, ?_, List.forall_mem_cons.mpr ⟨ha, List.forall_mem_cons.mpr ⟨htrans _ _ _ hr ha, hl⟩⟩⟩
      rcases List.mem_cons.mp hm with rfl | hm
      · exact List.mem_cons_self
      · exact List.mem_cons_of_mem _ (List.mem_cons_of_mem _ hm)

theorem foldl_pick_eq {R : Rat → Rat → Prop} (hrefl : ∀ a, R a a)
    (htrans : ∀ a b c, R a b → R b c → R a c) (hanti : ∀ a b, R a b → R b a → a = b)
    {step : Option Rat → Rat → Option Rat} (hnone : ∀ x, step none x = some x)
    (hstep : ∀ v x, (step (some v) x = some x ∧ R v x) ∨ (step (some v) x = some v ∧ R x v))
    {h : List Elem} {M : List Rat} (hp : h.Perm (M.map some)) {b : Rat} (hb : b ∈ M)
    (hub : ∀ x ∈ M, R x b) : (valid h).foldl step none = some b := by
  have hv : (valid h).Perm M := by simpa [valid_map_some] using valid_perm hp
  cases hvl : valid h with
  | nil => rw [hvl] at hv; exact absurd (hv.symm.mem_iff.mp hb) List.not_mem_nil
  | cons a l =>
    rw [List.foldl_cons, hnone]
    obtain ⟨v, hv', hm, hu⟩ := foldl_pick_spec hrefl htrans hstep l a
    rw [hvl] at hv
    rw [hv', hanti v b (hub v (hv.mem_iff.mp hm)) (hu b (hv.mem_iff.mpr hb))]

theorem vmaxE_eq {h : List Elem} {M : List Rat} (hp : h.Perm (M.map some)) {b : Rat} (hb : b ∈ M)
    (hub : ∀ x ∈ M, x ≤ b) : vmaxE h = some b :=
  foldl_pick_eq (R := fun x v => x ≤ v) le_refl (fun _ _ _ => le_trans) (fun _ _ => le_antisymm)
    (fun _ => rfl)
    (fun v x => by
      by_cases hx : x > v
      · exact Or.inl ⟨congrArg some (if_pos hx), le_of_lt hx⟩
      · exact Or.inr ⟨congrArg some (if_neg hx), not_lt.mp hx⟩) hp hb hub

theorem vminE_eq {h : List Elem} {M : List Rat} (hp : h.Perm (M.map some)) {b : Rat} (hb : b ∈ M)
    (hlb : ∀ x ∈ M, b ≤ x) : vminE h = some b :=
  foldl_pick_eq (R := fun x v => v ≤ x) le_refl (fun _ _ _ h1 h2 => le_trans h2 h1)
    (fun _ _ h1 h2 => le_antisymm h2 h1) (fun _ => rfl)
    (fun v x => by
      by_cases hx : x < v
      · exact Or.inl ⟨congrArg some (if_pos hx), le_of_lt hx⟩
      · exact Or.inr ⟨congrArg some (if_neg hx), not_lt.mp hx⟩) hp hb hlb

theorem sorted_prefix_le {R : Rat → Rat → Prop} (hr : ∀ a, R a a) {l : List Rat} (hs : l.Pairwise R)
    {i : Nat} {a : Rat} (ha : l[i]? = some a) : a ∈ l.take (i + 1) ∧ ∀ x ∈ l.take (i + 1), R x a := by
  obtain ⟨hi, rfl⟩ := List.getElem?_eq_some_iff.mp ha
  constructor
  · rw [List.take_succ_eq_append_getElem hi]
    exact List.mem_append_right _ (List.mem_singleton.mpr rfl)
  · intro x hx
    rw [List.mem_take_iff_getElem] at hx
    obtain ⟨k, hk, rfl⟩ := hx
    rcases Nat.lt_succ_iff_lt_or_eq.mp (Nat.lt_of_lt_of_le hk (Nat.min_le_left _ _)) with h | h
    · exact List.pairwise_iff_getElem.mp hs k i (by omega) hi h
    · subst h; exact hr _

/-- value of the four interpolation kinds between `a` (lower) and `b` (upper) at fraction `f` -/
def interpVal (a b f : Rat) : Spec.Interp → Rat
  | .linear => a + (b - a) * f
  | .lower => a
  | .higher => b
  | .midpoint => (a + b) / 2

theorem interp_eval (v : List Rat) (t : Rat) (m : Spec.Interp) {lo hi : Nat} {a b : Rat}
    (hlo : t.floor.toNat = lo) (hhi : t.ceil.toNat = hi) (ha : v[lo]? = some a) (hb : v[hi]? = some b) :
    Spec.interp v t m = .val (interpVal a b (t - (lo : Rat)) m) := by
  unfold Spec.interp
  simp only [hlo, hhi, ha, hb]
  cases m <;> rfl

def toInterp : QMethod → Spec.Interp
  | .linear => .linear
  | .lower => .lower
  | .higher => .higher
  | .midpoint => .midpoint

theorem interpVal_same (a f : Rat) (m : Spec.Interp) : interpVal a a f m = a := by
  cases m <;> simp [interpVal]

/-- the final `match method` of the kernel on the low branch (`j = i + 1`), at the index `t = L q` -/
theorem qFinish_low (L : Nat) (hL : 0 < L) {q t : Rat} (ht : (L : Rat) * q = t) (i : Nat) (a b : Rat)
    (m : QMethod) :
    qFinish (L : Rat) q i (i + 1) (some a) (some b) m
      = some (interpVal a b (t - (i : Rat)) (toInterp m)) := by
  have hL' : (L : Rat) ≠ 0 := by exact_mod_cast (Nat.pos_iff_ne_zero.mp hL)
  cases m <;> simp only [qFinish, map2, interpVal, toInterp, fraction_eq hL', ht]

/-- … and on the mirrored branch, where the neighbours come in descending order (`b` then `a`) and
`lower` / `higher` take the selected element and the head's minimum directly -/
theorem qFinish_high (L : Nat) (hL : 0 < L) {q' t : Rat} (ht : (L : Rat) * q' = t) (i : Nat) (a b : Rat)
    (m : QMethod) :
    (match m with
      | .lower => Res.ok (toOut (some a))
      | .higher => Res.ok (toOut (some b))
      | _ => Res.ok (toOut (qFinish (L : Rat) q' i (i + 1) (some b) (some a) m)))
      = Res.ok (toOut (some (interpVal a b (1 - (t - (i : Rat))) (toInterp m)))) := by
  have hL' : (L : Rat) ≠ 0 := by exact_mod_cast (Nat.pos_iff_ne_zero.mp hL)
  cases m <;> simp only [qFinish, map2, interpVal, toInterp, fraction_eq hL', ht]
  · congr 3; ring
  · congr 3; ring

theorem sortedE_get (rev : Bool) (xs : List Elem) {j : Nat} (hj : j < (valid xs).length) :
    (sortedE rev xs)[j]? = ((Spec.sortedValid xs rev)[j]?).map some := by
  unfold sortedE
  rw [List.getElem?_append_left (by simpa using hj), List.getElem?_map]

theorem sortedValid_get (rev : Bool) (xs : List Elem) {j : Nat} (hj : j < (valid xs).length) :
    ∃ a, (Spec.sortedValid xs rev)[j]? = some a :=
  ⟨_, List.getElem?_eq_getElem (by rw [sortedValid_length]; exact hj)⟩

theorem sortedValid_rev_get (xs : List Elem) {j : Nat} (hj : j < (valid xs).length) :
    (Spec.sortedValid xs true)[j]? = (Spec.sortedValid xs false)[(valid xs).length - 1 - j]? := by
  rw [sortedValid_rev, List.getElem?_reverse (by simpa using hj), sortedValid_length]

theorem sortedValid_asc (xs : List Elem) : (Spec.sortedValid xs false).Pairwise (fun a b => a ≤ b) :=
  (sortedValid_pairwise xs false).imp (leR_iff false _ _).mp

theorem sortedValid_desc (xs : List Elem) : (Spec.sortedValid xs true).Pairwise (fun a b => b ≤ a) :=
  (sortedValid_pairwise xs true).imp (leR_iff true _ _).mp

theorem vquantile_one (xs : List Elem) (q : Rat) (m : QMethod) (hn : (valid xs).length = 1) :
    toOut (valid xs).head? = Spec.quantile xs q (toInterp m) := by
  obtain ⟨v, hv⟩ : ∃ v, valid xs = [v] := List.length_eq_one_iff.mp hn
  have hsv : Spec.sortedValid xs false = [v] := by
    have := sortedValid_perm xs false
    rw [hv] at this
    exact List.perm_singleton.mp this
  unfold Spec.quantile
  rw [hsv, hv]
  simp only [List.length_singleton, Nat.sub_self, Nat.cast_zero, zero_mul, List.head?_cons, toOut]
  rw [interp_eval [v] 0 (toInterp m) (lo := 0) (hi := 0) (a := v) (b := v) (by decide) (by decide) rfl rfl]
  simp [interpVal_same]

/-- the selection at `⌈t⌉` under the order `rev` exposes the two neighbours of the fractional index
`t` in `sortedValid xs rev`: the selected element is entry `⌈t⌉`, and the extreme of the head (its
maximum in the ascending order, its minimum in the descending one) is entry `⌊t⌋` -/
theorem select_neighbours {S : Std} (hS : S.Ok) (rev : Bool) (xs : List Elem) {t : Rat} (ht0 : 0 ≤ t)
    (htL : t ≤ (((valid xs).length - 1 : Nat) : Rat)) (hn : 1 ≤ (valid xs).length) :
    ∃ h tl a b, S.select (leE rev) xs t.ceil.toNat = some (h, some b, tl) ∧
      (Spec.sortedValid xs rev)[t.floor.toNat]? = some a ∧
      (Spec.sortedValid xs rev)[t.ceil.toNat]? = some b ∧
      (t.ceil.toNat = t.floor.toNat + 1 → (bif rev then vminE h else vmaxE h) = some a) := by
  have hlen := valid_length_le xs
  obtain ⟨hiv, hjv⟩ := floor_ceil_lt ht0 htL hn
  obtain ⟨h, mm, tl, hsel, hp, hjl, hh, hht⟩ :=
    hS.select_spec (leE rev) (leE_total rev) (leE_trans rev) xs t.ceil.toNat
      (Nat.lt_of_lt_of_le hjv hlen)
  obtain ⟨a, ha⟩ := sortedValid_get rev xs hiv
  obtain ⟨b, hb⟩ := sortedValid_get rev xs hjv
  have hmm : mm = some b := by
    have h1 := select_nth rev hp hjl hh hht
    rw [sortedE_get rev xs hjv, hb] at h1
    exact (Option.some.inj h1).symm
  subst hmm
  refine ⟨h, tl, a, b, hsel, ha, hb, fun hji => ?_⟩
  have hhead : h.Perm (((Spec.sortedValid xs rev).take (t.floor.toNat + 1)).map some) := by
    have := select_head rev hp hjl hh hht
    rwa [sortedE_take_le rev xs (Nat.le_of_lt hjv), hji] at this
  cases rev
  · have hpre := sorted_prefix_le (R := fun a b => a ≤ b) (fun _ => le_refl _) (sortedValid_asc xs) ha
    exact vmaxE_eq hhead hpre.1 hpre.2
  · have hpre := sorted_prefix_le (R := fun a b => b ≤ a) (fun _ => le_refl _) (sortedValid_desc xs) ha
    exact vminE_eq hhead hpre.1 hpre.2

theorem vquantile_low {S : Std} (hS : S.Ok) (xs : List Elem) (q : Rat) (m : QMethod)
    (h0 : 0 ≤ q) (h1 : q ≤ 1) (hn : 2 ≤ (valid xs).length) :
    (match S.select (leE false) xs ((((valid xs).length - 1 : Nat) : Rat) * q).ceil.toNat with
      | none => Res.panic
      | some (head, mm, _) =>
        if (((((valid xs).length - 1 : Nat) : Rat) * q).floor.toNat ≠
            ((((valid xs).length - 1 : Nat) : Rat) * q).ceil.toNat) then
          Res.ok (toOut (qFinish (((valid xs).length - 1 : Nat) : Rat) q
            ((((valid xs).length - 1 : Nat) : Rat) * q).floor.toNat
            ((((valid xs).length - 1 : Nat) : Rat) * q).ceil.toNat (vmaxE head) mm m))
        else Res.ok (toOut mm))
      = .ok (Spec.interp (Spec.sortedValid xs false) ((((valid xs).length - 1 : Nat) : Rat) * q) (toInterp m)) := by
  obtain ⟨ht0, htL⟩ := index_bounds ((valid xs).length - 1) h0 h1
  generalize ht : (((valid xs).length - 1 : Nat) : Rat) * q = t at ht0 htL ⊢
  obtain ⟨h, tl, a, b, hsel, ha, hb, hext⟩ := select_neighbours hS false xs ht0 htL (Nat.le_of_succ_le hn)
  rw [hsel]
  simp only []
  rcases floor_ceil_cases ht0 with ⟨hij, _⟩ | ⟨hji, _, _⟩
  · rw [if_neg (not_not.mpr hij), interp_eval _ t (toInterp m) hij rfl hb hb, interpVal_same]
    rfl
  · rw [if_pos (hji ▸ Nat.ne_of_lt (Nat.lt_succ_self _)), show vmaxE h = some a from hext hji, hji,
      qFinish_low _ (Nat.sub_pos_of_lt hn) ht, interp_eval _ t (toInterp m) rfl hji ha (hji ▸ hb)]
    rfl

theorem vquantile_high {S : Std} (hS : S.Ok) (xs : List Elem) (q : Rat) (m : QMethod)
    (h0 : 1 / 2 < q) (h1 : q ≤ 1) (hn : 2 ≤ (valid xs).length) :
    (match S.select (leE true) xs ((((valid xs).length - 1 : Nat) : Rat) * (1 - q)).ceil.toNat with
      | none => Res.panic
      | some (head, mm, _) =>
        if (((((valid xs).length - 1 : Nat) : Rat) * (1 - q)).floor.toNat ≠
            ((((valid xs).length - 1 : Nat) : Rat) * (1 - q)).ceil.toNat) then
          (match m with
          | .lower => Res.ok (toOut mm)
          | .higher => Res.ok (toOut (vminE head))
          | _ => Res.ok (toOut (qFinish (((valid xs).length - 1 : Nat) : Rat) (1 - q)
            ((((valid xs).length - 1 : Nat) : Rat) * (1 - q)).floor.toNat
            ((((valid xs).length - 1 : Nat) : Rat) * (1 - q)).ceil.toNat (vminE head) mm m)))
        else Res.ok (toOut mm))
      = .ok (Spec.interp (Spec.sortedValid xs false) ((((valid xs).length - 1 : Nat) : Rat) * q) (toInterp m)) := by
  obtain ⟨ht0, htL⟩ := index_bounds ((valid xs).length - 1) (q := 1 - q) (sub_nonneg.mpr h1)
    (sub_le_self 1 (le_of_lt (lt_trans (one_div_pos.mpr two_pos) h0)))
  have hmir : (((valid xs).length - 1 : Nat) : Rat) * q =
      (((valid xs).length - 1 : Nat) : Rat) - (((valid xs).length - 1 : Nat) : Rat) * (1 - q) := by ring
  rw [hmir]
  generalize ht : (((valid xs).length - 1 : Nat) : Rat) * (1 - q) = t at ht0 htL ⊢
  obtain ⟨mfl, mcl⟩ := mirror_index ((valid xs).length - 1) ht0 htL
  obtain ⟨hiv, hjv⟩ := floor_ceil_lt ht0 htL (Nat.le_of_succ_le hn)
  -- in the descending order `b` sits at `⌊t⌋`, `a` at `⌈t⌉`; in the ascending order `a` comes first
  obtain ⟨h, tl, b, a, hsel, hb, ha, hext⟩ := select_neighbours hS true xs ht0 htL (Nat.le_of_succ_le hn)
  rw [hsel]
  simp only []
  rw [sortedValid_rev_get xs hjv] at ha
  rw [sortedValid_rev_get xs hiv] at hb
  rcases floor_ceil_cases ht0 with ⟨hij, _⟩ | ⟨hji, _, _⟩
  · rw [if_neg (not_not.mpr hij),
      interp_eval _ _ (toInterp m) mfl (by rw [mcl, hij]) ha ha, interpVal_same]
    rfl
  · have hfrac : (((valid xs).length - 1 : Nat) : Rat) - t -
        (((valid xs).length - 1 - t.ceil.toNat : Nat) : Rat) = 1 - (t - (t.floor.toNat : Rat)) := by
      rw [Nat.cast_sub (ceil_toNat_le ht0 htL), hji]; push_cast; ring
    rw [if_pos (hji ▸ Nat.ne_of_lt (Nat.lt_succ_self _)), show vminE h = some b from hext hji,
      interp_eval _ _ (toInterp m) mfl mcl ha hb, hfrac, hji,
      qFinish_high _ (Nat.sub_pos_of_lt hn) ht]
    rfl

theorem spec_quantile_val (xs : List Elem) (q : Rat) (m : Spec.Interp) (h0 : 0 ≤ q) (h1 : q ≤ 1)
    (hn : 0 < (valid xs).length) : ∃ v, Spec.quantile xs q m = .val v := by
  unfold Spec.quantile
  simp only [sortedValid_length, Nat.pos_iff_ne_zero.mp hn, if_false]
  obtain ⟨ht0, htL⟩ := index_bounds ((valid xs).length - 1) h0 h1
  obtain ⟨hiv, hjv⟩ := floor_ceil_lt ht0 htL hn
  obtain ⟨a, ha⟩ := sortedValid_get false xs hiv
  obtain ⟨b, hb⟩ := sortedValid_get false xs hjv
  exact ⟨_, interp_eval _ _ m rfl rfl ha hb⟩

end Tv.C12
