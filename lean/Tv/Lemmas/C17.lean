import Tv.Model.C17
import Tv.Spec.C17
import Mathlib.Tactic.SplitIfs
/-!
  The operators of `Tv.Model.C17` on operands in range: each is its chain of chrono steps with every
  check passed. The notions the C17 theorems are stated with are defined here (`DtOk`, `TD.Valid`,
  the component-wise `TD.add` / `neg` / `smul`, `todOf`). `chronoTrunc` is `n * (t / n)`. The
  counting calendar of the specification agrees with the model's closed forms.
-/
namespace Tv.C17

theorem band_decide (p q : Prop) [Decidable p] [Decidable q] : (decide p && decide q) = true ↔ p ∧ q := by
  rw [Bool.and_eq_true, decide_eq_true_iff, decide_eq_true_iff]

theorem crMin_val : crMin = -8334601228800000000000 := by decide
theorem crMax_val : crMax = 8210266876799999999999 := by decide

theorem inCr_iff (t : Int) : inCr t = true ↔ -8334601228800000000000 ≤ t ∧ t ≤ 8210266876799999999999 := by
  unfold inCr; rw [crMin_val, crMax_val]; exact band_decide _ _

theorem inI64_iff (t : Int) : inI64 t = true ↔ -9223372036854775808 ≤ t ∧ t ≤ 9223372036854775807 := by
  unfold inI64 i64Min i64Max; exact band_decide _ _

theorem inI32_iff (t : Int) : inI32 t = true ↔ -2147483648 ≤ t ∧ t ≤ 2147483647 := by
  unfold inI32 i32Min i32Max; exact band_decide _ _

theorem inDur_iff (n : Int) : inDur n = true ↔ -9223372036854775807000000 ≤ n ∧ n ≤ 9223372036854775807000000 := by
  unfold inDur durMax i64Max; rw [band_decide]; omega

theorem mulOk_iff (n k : Int) :
    mulOk n k = true ↔ -9223372036854775808 < n * k / 1000000000 ∧ n * k / 1000000000 < 9223372036854775807 := by
  unfold mulOk i64Min i64Max nsPerSec; exact band_decide _ _

theorem inCr_between {a b t : Int} (ha : inCr a = true) (hb : inCr b = true) (h1 : a ≤ t) (h2 : t ≤ b) :
    inCr t = true := by
  rw [inCr_iff] at *; omega

/-- every `i64` nanosecond instant is inside chrono's range -/
theorem inCr_of_inI64 {t : Int} (h : inI64 t = true) : inCr t = true := by
  rw [inI64_iff] at h; rw [inCr_iff]; omega

@[simp] theorem Res.bind_ok (v : α) (f : α → Res β) : (Res.ok v).bind f = f v := rfl
@[simp] theorem Res.bind_panic (f : α → Res β) : (Res.panic : Res α).bind f = .panic := rfl

/-- instant `t` is inside chrono's range and, at nanosecond precision, a non-NaT `i64` -/
def DtOk (u : TUnit) (t : Int) : Prop :=
  inCr t = true ∧ (u = .ns → i64Min < t ∧ t ≤ i64Max)

def TD.add (a b : TD) : TD := ⟨a.months + b.months, a.inner + b.inner⟩
def TD.neg (a : TD) : TD := ⟨-a.months, -a.inner⟩
def TD.smul (k : Int) (a : TD) : TD := ⟨a.months * k, a.inner * k⟩

/-- a representable, non-NaT duration: `i32` months other than the NaT marker and a fixed part
within chrono's `±i64::MAX` ms -/
def TD.Valid (a : TD) : Prop := i32Min < a.months ∧ a.months ≤ i32Max ∧ inDur a.inner = true

theorem TD.Valid.not_nat {a : TD} (h : a.Valid) : a.isNat = false := by
  simp only [TD.isNat, decide_eq_false_iff_not]; exact Int.ne_of_gt h.1

theorem TD.Valid.inI32 {a : TD} (h : a.Valid) : inI32 a.months = true := by
  rw [inI32_iff]; have := h.1; have := h.2.1; simp only [i32Min, i32Max] at *; omega

/-- the nanoseconds-since-midnight value of `h:m:s` plus `f` nanoseconds -/
def todOf (h m s f : Int) : Int := (h * 3600 + m * 60 + s) * 1000000000 + f

theorem TUnit.mult_pos (u : TUnit) : 0 < u.mult := by cases u <;> decide

theorem ne_nat_of_DtOk {u : TUnit} {x : Int} (h : DtOk u (x * u.mult)) : x ≠ nat64 := by
  rintro rfl
  cases u <;> first | exact absurd h.1 (by decide) | exact absurd (h.2 rfl).1 (by decide)

theorem asCr_of_inCr {u : TUnit} {x : Int} (hx : x ≠ nat64) (h : inCr (x * u.mult) = true) :
    asCr u x = some (x * u.mult) := by
  simp [asCr, hx, h]

theorem asCr_of_DtOk {u : TUnit} {x : Int} (h : DtOk u (x * u.mult)) : asCr u x = some (x * u.mult) :=
  asCr_of_inCr (ne_nat_of_DtOk h) h.1

/-- only the nanosecond unit can fail -/
theorem fromCr_total {u : TUnit} {t : Int} (h : u = .ns → inI64 t = true) : fromCr u t = .ok (t / u.mult) := by
  cases u
  case ns => rw [fromCr, if_pos (h rfl), TUnit.mult, Int.ediv_one]
  all_goals rfl

theorem DtOk.inI64 {u : TUnit} {t : Int} (h : DtOk u t) (hu : u = .ns) : inI64 t = true := by
  have := h.2 hu
  rw [inI64_iff]; simp only [i64Min, i64Max] at this; omega

theorem fromCr_of_DtOk {u : TUnit} {t : Int} (h : DtOk u t) : fromCr u t = .ok (t / u.mult) :=
  fromCr_total h.inI64

theorem fromCr_mul_of {u : TUnit} {x : Int} (h : u = .ns → inI64 (x * u.mult) = true) :
    fromCr u (x * u.mult) = .ok x := by
  rw [fromCr_total h, Int.mul_ediv_cancel _ (Int.ne_of_gt (TUnit.mult_pos u))]

theorem fromCr_mul {u : TUnit} {x : Int} (h : DtOk u (x * u.mult)) : fromCr u (x * u.mult) = .ok x :=
  fromCr_mul_of h.inI64

/-- in the shape `omega` discharges at the call sites (the operands of `Time::from_hms*` are
non-negative) -/
theorem chk_ok {x : Int} (h : 0 ≤ x ∧ x < 9223372036854775807) : chk x = .ok x := by
  have : inI64 x = true := by rw [inI64_iff]; omega
  rw [chk, if_pos this]

theorem addMonthsCr_zero (t : Int) : addMonthsCr t 0 = .ok t := by simp [addMonthsCr]

theorem addDurCr_ok {t n : Int} (h : inCr (t + n) = true) : addDurCr t n = .ok (t + n) := by
  rw [addDurCr, if_pos h]

theorem dtAdd_of_ok {u : TUnit} {x : Int} {d : TD} (hx : DtOk u (x * u.mult)) (hd : d.isNat = false) :
    dtAdd u x d = (addMonthsCr (x * u.mult) d.months).bind fun t1 =>
      (addDurCr t1 d.inner).bind (fromCr u) := by
  simp only [dtAdd, ne_nat_of_DtOk hx, hd, ne_eq, not_false_eq_true, Bool.not_false, and_self, if_true,
    asCr_of_DtOk hx]

/-- subtracting a month-free duration is adding its negation (the bodies differ only in the signs) -/
theorem dtSub_eq_dtAdd_neg (u : TUnit) (x n : Int) : dtSub u x ⟨0, n⟩ = dtAdd u x ⟨0, -n⟩ := rfl

theorem dtDiff_of_ok {u : TUnit} {a b : Int} (ha : DtOk u (a * u.mult)) (hb : DtOk u (b * u.mult)) :
    dtDiff u a b = .ok ⟨0, a * u.mult - b * u.mult⟩ := by
  simp only [dtDiff, ne_nat_of_DtOk ha, ne_nat_of_DtOk hb, ne_eq, not_false_eq_true, and_self, if_true,
    asCr_of_DtOk ha, asCr_of_DtOk hb]

theorem td0_not_nat (n : Int) : (TD.mk 0 n).isNat = false := by simp [TD.isNat, i32Min]

theorem ediv_emod_pos (t : Int) {n : Int} (hn : 0 < n) : n * (t / n) + t % n = t ∧ 0 ≤ t % n ∧ t % n < n :=
  ⟨Int.mul_ediv_add_emod t n, Int.emod_nonneg t (Int.ne_of_gt hn), Int.emod_lt_of_pos t hn⟩

theorem floor_mul_greatest (t n : Int) (hn : 0 < n) :
    n * (t / n) ≤ t ∧ t < n * (t / n) + n ∧ n ∣ n * (t / n) ∧
    ∀ k, n ∣ k → k ≤ t → k ≤ n * (t / n) := by
  obtain ⟨h1, h2, h3⟩ := ediv_emod_pos t hn
  refine ⟨by omega, by omega, Int.dvd_mul_right _ _, ?_⟩
  rintro k ⟨j, rfl⟩ hk
  have : j ≤ t / n := by
    rw [Int.le_ediv_iff_mul_le hn, Int.mul_comm]; exact hk
  exact Int.mul_le_mul_of_nonneg_left this (Int.le_of_lt hn)

theorem tmod_of_pos (t : Int) {n : Int} (hn : 0 < n) :
    t.tmod n = t % n ∨ (t % n ≠ 0 ∧ t.tmod n = t % n - n) := by
  have h := @Int.tmod_eq_emod t n
  by_cases hc : 0 ≤ t ∨ n ∣ t
  · rw [if_pos hc, Int.natCast_zero, Int.sub_zero] at h
    exact Or.inl h
  · rw [if_neg hc, Int.natAbs_of_nonneg (Int.le_of_lt hn)] at h
    exact Or.inr ⟨fun h0 => hc (Or.inr (Int.dvd_of_emod_eq_zero h0)), h⟩

/-- chrono's `duration_trunc` on an `i64` nanosecond instant -/
theorem chronoTrunc_eq (t n : Int) (hn : 0 < n) (hn64 : inI64 n = true) (ht : inI64 t = true) :
    chronoTrunc t n = .ok (n * (t / n)) := by
  obtain ⟨h1, h2, h3⟩ := ediv_emod_pos t hn
  have hin : inCr (n * (t / n)) = true := by
    rw [inI64_iff] at hn64 ht; rw [inCr_iff]; omega
  simp only [chronoTrunc, hn64, ht, Bool.not_true, Bool.false_eq_true, if_false, show ¬ n ≤ 0 by omega]
  rcases tmod_of_pos t hn with e | ⟨hne, e⟩
  · rw [e]
    by_cases h0 : t % n = 0
    · rw [if_pos h0]; congr 1; omega
    · rw [if_neg h0, if_pos (by omega), addDurCr, show t + -(t % n) = n * (t / n) by omega, if_pos hin]
  · rw [e, if_neg (by omega), if_neg (by omega), addDurCr,
      show t + -(n - ↑(t % n - n).natAbs) = n * (t / n) by omega, if_pos hin]

theorem month_bucket (y m dm : Int) (hm : 1 ≤ m ∧ m ≤ 12) (hdm : 0 < dm) (hd : 12 % dm = 0) :
    (y * 12 + (m - 1) - (y * 12 + (m - 1)) % dm) / 12 = y ∧
    (y * 12 + (m - 1) - (y * 12 + (m - 1)) % dm) % 12 + 1 = 1 + dm * ((m - 1) / dm) := by
  -- `dm ∣ 12`, so the month index and `m - 1` leave the same remainder, which is at most `m - 1`
  have e : (y * 12 + (m - 1)) % dm = (m - 1) % dm := by
    rw [← Int.emod_emod_of_dvd _ (Int.dvd_of_emod_eq_zero hd)]
    congr 1; omega
  obtain ⟨h1, h0, _⟩ := ediv_emod_pos (m - 1) hdm
  have h2 : 0 ≤ dm * ((m - 1) / dm) :=
    Int.mul_nonneg (Int.le_of_lt hdm) (Int.ediv_nonneg (by omega) (Int.le_of_lt hdm))
  rw [e]
  generalize (m - 1) % dm = r at *
  generalize dm * ((m - 1) / dm) = q at *
  omega

theorem leap_eq (y : Int) : Spec.leap y = isLeap y := by
  rw [Bool.eq_iff_iff]
  simp only [Spec.leap, isLeap, Bool.and_eq_true, Bool.or_eq_true, beq_iff_eq, bne_iff_ne, decide_eq_true_iff]
  omega

/-- Stated, like `monthLengths_take_sum`, for the literal list with the leap flag a `Bool`, so that
`decide` can run through the 2 × 12 cases; `monthLen_eq` and `dayNumber_eq` put in `isLeap y`. -/
theorem monthLengths_getD : ∀ (b : Bool) (k : Nat), k < 12 →
    [31, if b then 29 else 28, 31, 30, 31, 30, 31, 31, 30, 31, 30, 31].getD k (31 : Int) =
      if (k : Int) + 1 = 2 then (if b then 29 else 28)
      else if (k : Int) + 1 = 4 ∨ (k : Int) + 1 = 6 ∨ (k : Int) + 1 = 9 ∨ (k : Int) + 1 = 11 then 30
      else 31 := by
  decide

theorem monthLen_eq (y m : Int) (hm : 1 ≤ m ∧ m ≤ 12) :
    (Spec.monthLengths y).getD (m - 1).toNat 31 = daysInMonth y m := by
  have h := monthLengths_getD (isLeap y) (m - 1).toNat (by omega)
  rw [show (((m - 1).toNat : Nat) : Int) + 1 = m by omega] at h
  rw [Spec.monthLengths, leap_eq, h, daysInMonth]

/-- the days before each month, in a common and in a leap year, are those of the `153`-formula,
which counts from 1 March -/
theorem monthLengths_take_sum : ∀ (b : Bool) (k : Nat), k < 12 →
    ((List.take k [31, if b then 29 else 28, 31, 30, 31, 30, 31, 31, 30, 31, 30, 31]).sum : Int) =
      (153 * (((k : Int) + 10) % 12) + 2) / 5 + if k < 2 then -306 else 59 + if b then 1 else 0 := by
  decide

/-- the quotient by `d` steps up exactly at the multiples of `d` -/
theorem sub_one_ediv (y : Int) {d : Int} (hd : 0 < d) :
    (y - 1) / d = y / d - if y % d = 0 then 1 else 0 := by
  obtain ⟨h, h0, h1⟩ := ediv_emod_pos y hd
  split_ifs with hz
  · exact ((Int.ediv_emod_unique hd).2 ⟨show d - 1 + d * (y / d - 1) = y - 1 by rw [Int.mul_sub]; omega,
      by omega, by omega⟩).1
  · exact ((Int.ediv_emod_unique hd).2 ⟨show y % d - 1 + d * (y / d - 0) = y - 1 by rw [Int.sub_zero]; omega,
      by omega, by omega⟩).1

theorem daysBeforeYear_succ (y : Int) :
    Spec.daysBeforeYear (y + 1) = Spec.daysBeforeYear y + 365 + if Spec.leap y then 1 else 0 := by
  simp only [Spec.daysBeforeYear, Spec.leap, Int.add_sub_cancel, sub_one_ediv y (show (0 : Int) < 4 by decide),
    sub_one_ediv y (show (0 : Int) < 100 by decide), sub_one_ediv y (show (0 : Int) < 400 by decide),
    Bool.and_eq_true, Bool.or_eq_true, beq_iff_eq, bne_iff_ne]
  by_cases h400 : y % 400 = 0
  · have h100 : y % 100 = 0 := by omega
    have h4 : y % 4 = 0 := by omega
    simp only [h4, h100, h400, or_true, and_self, if_true]; omega
  · by_cases h100 : y % 100 = 0
    · have h4 : y % 4 = 0 := by omega
      simp only [h4, h100, h400, ne_eq, not_true_eq_false, or_self, and_false, if_true, if_false]; omega
    · by_cases h4 : y % 4 = 0
      · simp only [h4, h100, h400, ne_eq, not_false_eq_true, true_or, and_self, if_true, if_false]; omega
      · simp only [h4, h100, h400, false_and, if_false]; omega

/-- `daysBeforeYear (y + 1)`, the days up to 1 January of year `y + 1`, is also the number of days in
the `y` March-based years before 1 March of year `y`: whole eras plus the years of the last era, the
form `daysFromCivil` uses -/
theorem daysBeforeYear_era (y : Int) :
    Spec.daysBeforeYear (y + 1) = y / 400 * 146097 +
      ((y - y / 400 * 400) * 365 + (y - y / 400 * 400) / 4 - (y - y / 400 * 400) / 100) := by
  simp only [Spec.daysBeforeYear]; omega

/-- counting days (days before the year + lengths of the preceding months) gives the same day
number as the closed form used by the model -/
theorem dayNumber_eq (y m d : Int) (hm : 1 ≤ m ∧ m ≤ 12) :
    Spec.dayNumber y m d = daysFromCivil y m d := by
  obtain ⟨h1, h2⟩ := hm
  have hs := monthLengths_take_sum (Spec.leap y) (m - 1).toNat (by omega)
  rw [show (((m - 1).toNat : Nat) : Int) + 10 = m + 9 by omega] at hs
  have h70 : Spec.daysBeforeYear 1970 = 719162 := by decide
  simp only [Spec.dayNumber, Spec.monthLengths, hs, daysFromCivil, h70]
  clear hs h70
  by_cases hm2 : m ≤ 2
  · -- January and February belong to year `y - 1` of the March-based count
    have c : (m - 1).toNat < 2 := by omega
    have e := daysBeforeYear_era (y - 1)
    rw [Int.sub_add_cancel] at e
    simp only [hm2, c, if_true, e]
    clear e
    omega
  · have c : ¬ (m - 1).toNat < 2 := by omega
    have e := daysBeforeYear_era y
    rw [daysBeforeYear_succ y] at e
    simp only [hm2, c, if_false]
    omega

/-- the year and month with month index `t` -/
def ymOf (t : Int) : Int × Int := (t / 12, t % 12 + 1)

theorem ymOf_index (y m : Int) (hm : 1 ≤ m ∧ m ≤ 12) : ymOf (y * 12 + (m - 1)) = (y, m) := by
  unfold ymOf; ext <;> simp only <;> omega

theorem nextMonth_ymOf (t : Int) : Spec.nextMonth (ymOf t) = ymOf (t + 1) := by
  unfold Spec.nextMonth ymOf
  split <;> ext <;> simp only at * <;> omega

theorem prevMonth_ymOf (t : Int) : Spec.prevMonth (ymOf t) = ymOf (t + -1) := by
  unfold Spec.prevMonth ymOf
  split <;> ext <;> simp only at * <;> omega

theorem iter_ymOf (f : Int × Int → Int × Int) (s : Int) (hf : ∀ t, f (ymOf t) = ymOf (t + s))
    (n : Nat) (t : Int) : Spec.iter f n (ymOf t) = ymOf (t + s * n) := by
  induction n generalizing t with
  | zero => simp only [Spec.iter, Int.natCast_zero, Int.mul_zero, Int.add_zero]
  | succ n ih =>
    rw [Spec.iter, hf, ih]
    congr 1
    rw [Int.natCast_succ, Int.mul_add, Int.mul_one]; omega

end Tv.C17
