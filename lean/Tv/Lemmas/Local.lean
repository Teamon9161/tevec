import Tv.Lemmas.Window
/-! Locality of windowed functions: anything of the form `i ↦ F (window xs i w)` is
prefix-stable (no look-ahead: `windowed_prefix`, and `windowed_take` for two series) and independent
of everything before the window (`windowed_congr`). These turn every `_exact` theorem into the C06
statements. -/
namespace Tv

theorem window_take (xs : List α) (i w k : Nat) (h : i < k) :
    window (xs.take k) i w = window xs i w := by
  unfold window
  rw [List.take_take, Nat.min_eq_left (Nat.succ_le_of_lt h)]

/-- windowed values over the first `n` positions, taken on a prefix of the series: the first
`min k n` of them (`n` need not be the length: two-series drivers range over the first series) -/
theorem windowed_take (F : List α → β) (xs : List α) (w k n : Nat) :
    (List.range (min k n)).map (fun i => F (window (xs.take k) i w))
      = ((List.range n).map fun i => F (window xs i w)).take k := by
  apply List.ext_getElem
  · rw [List.length_map, List.length_range, List.length_take, List.length_map, List.length_range]
  · intro i h1 _
    rw [List.length_map, List.length_range] at h1
    rw [List.getElem_map, List.getElem_range, List.getElem_take, List.getElem_map, List.getElem_range,
      window_take xs i w k (Nat.lt_of_lt_of_le h1 (Nat.min_le_left _ _))]

theorem windowed_prefix (F : List α → β) (xs : List α) (w k : Nat) :
    (List.range (xs.take k).length).map (fun i => F (window (xs.take k) i w))
      = ((List.range xs.length).map (fun i => F (window xs i w))).take k := by
  rw [List.length_take]; exact windowed_take F xs w k xs.length

theorem windowed_get (F : List α → β) (xs : List α) (w i : Nat) (hi : i < xs.length) :
    ((List.range xs.length).map fun i => F (window xs i w))[i]? = some (F (window xs i w)) := by
  rw [List.getElem?_map, List.getElem?_range hi]; rfl

/-- the window only sees positions `i+1-w ..= i` -/
theorem window_congr (xs ys : List α) (i w : Nat)
    (h : ∀ j, i + 1 - w ≤ j → j ≤ i → xs[j]? = ys[j]?) : window xs i w = window ys i w := by
  unfold window
  apply List.ext_getElem?
  intro n
  simp only [List.getElem?_drop, List.getElem?_take]
  by_cases hn : i + 1 - w + n < i + 1
  · simp only [hn, if_true]
    exact h _ (by omega) (by omega)
  · simp [hn]

theorem windowed_local (F : List α → β) (xs ys : List α) (w i : Nat)
    (h : ∀ j, i + 1 - w ≤ j → j ≤ i → xs[j]? = ys[j]?) :
    F (window xs i w) = F (window ys i w) := by rw [window_congr xs ys i w h]

theorem windowed_congr (F : List α → β) (xs ys : List α) (w n i : Nat)
    (h : ∀ j, i + 1 - w ≤ j → j ≤ i → xs[j]? = ys[j]?) :
    ((List.range n).map fun i => F (window xs i w))[i]? = ((List.range n).map fun i => F (window ys i w))[i]? := by
  rw [List.getElem?_map, List.getElem?_map]
  by_cases hi : i < n
  · rw [List.getElem?_range hi, Option.map_some, Option.map_some, window_congr xs ys i w h]
  · rw [List.getElem?_eq_none (by rw [List.length_range]; exact Nat.le_of_not_lt hi)]; rfl

end Tv
