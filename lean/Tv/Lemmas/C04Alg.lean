import Mathlib.Tactic.Ring
import Mathlib.Tactic.FieldSimp
import Mathlib.Tactic.NormNum
import Mathlib.Tactic.LinearCombination
import Mathlib.Algebra.Order.Field.Rat
import Tv.Model.C04
import Tv.Spec.C04
/-!
  Algebra behind C04 (Mathlib `ring` / `field_simp` over `Rat`): power sums of lists, centred
  sums, the normal equations, the SSE identity; then two consequences of the normal equations: a
  window on a line is fitted exactly, and the least-squares line minimises the squared residuals.
-/
namespace Tv.C04
open Tv Tv.Spec Tv.C04.Spec

@[simp] theorem sum_nil : sum [] = 0 := rfl
@[simp] theorem sum_cons (x : Rat) (l : List Rat) : sum (x :: l) = x + sum l := rfl

theorem sum_append (l r : List Rat) : sum (l ++ r) = sum l + sum r := by
  induction l with
  | nil => simp
  | cons x l ih => simp only [List.cons_append, sum_cons, ih]; ring

theorem sum_map_add (f g : α → Rat) (l : List α) :
    sum (l.map fun x => f x + g x) = sum (l.map f) + sum (l.map g) := by
  induction l with
  | nil => simp
  | cons x l ih => simp only [List.map_cons, sum_cons, ih]; ring

theorem sum_map_mul_left (c : Rat) (f : α → Rat) (l : List α) :
    sum (l.map fun x => c * f x) = c * sum (l.map f) := by
  induction l with
  | nil => simp
  | cons x l ih => simp only [List.map_cons, sum_cons, ih]; ring

theorem sum_map_const (c : Rat) (l : List α) : sum (l.map fun _ => c) = (l.length : Rat) * c := by
  induction l with
  | nil => simp
  | cons x l ih => simp only [List.map_cons, sum_cons, ih, List.length_cons]; push_cast; ring

theorem msum_eq (f : Rat → Rat) (l : List Rat) : msum f l = sum (l.map f) := by
  unfold msum
  suffices h : ∀ a : Rat, l.foldl (fun acc v => acc + f v) a = a + sum (l.map f) by
    simpa using h 0
  induction l with
  | nil => intro a; simp
  | cons x l ih => intro a; simp only [List.foldl_cons, List.map_cons, sum_cons, ih]; ring

def p1 (l : List Rat) : Rat := sum l
def p2 (l : List Rat) : Rat := sum (l.map fun x => x * x)
def p3 (l : List Rat) : Rat := sum (l.map fun x => x * x * x)

theorem csum2_expand (c : Rat) (l : List Rat) :
    csum 2 c l = p2 l - 2 * c * p1 l + (l.length : Rat) * c * c := by
  unfold csum p2 p1
  induction l with
  | nil => simp
  | cons x l ih =>
    simp only [List.map_cons, sum_cons, List.length_cons] at *
    rw [ih]; push_cast; ring

theorem csum3_expand (c : Rat) (l : List Rat) :
    csum 3 c l = p3 l - 3 * c * p2 l + 3 * c * c * p1 l - (l.length : Rat) * c * c * c := by
  unfold csum p3 p2 p1
  induction l with
  | nil => simp
  | cons x l ih =>
    simp only [List.map_cons, sum_cons, List.length_cons] at *
    rw [ih]; push_cast; ring

theorem csum2_mean (l : List Rat) (hn : l.length ≠ 0) :
    csum 2 (mean l) l = p2 l - p1 l * p1 l / (l.length : Rat) := by
  have hn' : (l.length : Rat) ≠ 0 := Nat.cast_ne_zero.2 hn
  rw [csum2_expand]
  unfold mean p1
  field_simp
  ring

/-- population variance, one-pass form = second central moment -/
theorem cmom2_closed (l : List Rat) (hn : l.length ≠ 0) :
    cmom 2 l = p2 l / (l.length : Rat) - (p1 l / (l.length : Rat)) * (p1 l / (l.length : Rat)) := by
  unfold cmom
  rw [csum2_mean l hn, sub_div, div_div, div_mul_div_comm]

/-- third central moment, one-pass form `ex3 - 3 mean var - mean³` -/
theorem cmom3_closed (l : List Rat) (hn : l.length ≠ 0) :
    cmom 3 l =
      p3 l / (l.length : Rat)
        - 3 * (p1 l / (l.length : Rat))
            * (p2 l / (l.length : Rat) - (p1 l / (l.length : Rat)) * (p1 l / (l.length : Rat)))
        - (p1 l / (l.length : Rat)) * (p1 l / (l.length : Rat)) * (p1 l / (l.length : Rat)) := by
  have hn' : (l.length : Rat) ≠ 0 := Nat.cast_ne_zero.2 hn
  unfold cmom mean
  rw [csum3_expand]
  unfold p1
  field_simp
  ring

/-! ### cross sums of a list of pairs `(y, x)` -/

def sA (l : List (Rat × Rat)) : Rat := sum (ys l)
def sB (l : List (Rat × Rat)) : Rat := sum (xs l)
def sAB (l : List (Rat × Rat)) : Rat := sum (l.map fun p => p.1 * p.2)
def sAA (l : List (Rat × Rat)) : Rat := sum (l.map fun p => p.1 * p.1)
def sBB (l : List (Rat × Rat)) : Rat := sum (l.map fun p => p.2 * p.2)

/-- the running sums a closure must hold when its window's complete pairs are `l` -/
@[reducible] def crossOf (l : List (Rat × Rat)) : Cross := ⟨l.length, sA l, sB l, sAB l, sAA l, sBB l⟩

@[simp] theorem ys_length (l : List (Rat × Rat)) : (ys l).length = l.length := by simp [ys]
@[simp] theorem xs_length (l : List (Rat × Rat)) : (xs l).length = l.length := by simp [xs]
theorem mean_ys (l : List (Rat × Rat)) : mean (ys l) = sA l / (l.length : Rat) := by
  unfold mean sA; rw [ys_length]
theorem mean_xs (l : List (Rat × Rat)) : mean (xs l) = sB l / (l.length : Rat) := by
  unfold mean sB; rw [xs_length]

theorem p1_ys (l : List (Rat × Rat)) : p1 (ys l) = sA l := rfl
theorem p1_xs (l : List (Rat × Rat)) : p1 (xs l) = sB l := rfl
theorem p2_ys (l : List (Rat × Rat)) : p2 (ys l) = sAA l := by
  unfold p2 ys sAA; rw [List.map_map]; rfl
theorem p2_xs (l : List (Rat × Rat)) : p2 (xs l) = sBB l := by
  unfold p2 xs sBB; rw [List.map_map]; rfl

theorem cross_expand (c d : Rat) (l : List (Rat × Rat)) :
    sum (l.map fun p => (p.1 - c) * (p.2 - d)) = sAB l - c * sB l - d * sA l + (l.length : Rat) * c * d := by
  unfold sAB sB sA ys xs
  induction l with
  | nil => simp
  | cons x l ih =>
    simp only [List.map_cons, sum_cons, List.length_cons] at *
    rw [ih]; push_cast; ring

/-- **cross_sum_centered**: `Σ(a - A/n)(b - B/n) = Σab - AB/n` -/
theorem cross_sum_centered (l : List (Rat × Rat)) (hn : l.length ≠ 0) :
    cxy l = sAB l - sA l * sB l / (l.length : Rat) := by
  have hn' : (l.length : Rat) ≠ 0 := Nat.cast_ne_zero.2 hn
  unfold cxy
  rw [cross_expand, mean_ys, mean_xs]
  field_simp
  ring

theorem cxx_closed (l : List (Rat × Rat)) (hn : l.length ≠ 0) :
    cxx l = sBB l - sB l * sB l / (l.length : Rat) := by
  unfold cxx
  rw [csum2_mean _ (by rwa [xs_length]), p2_xs, p1_xs, xs_length]

theorem cyy_closed (l : List (Rat × Rat)) (hn : l.length ≠ 0) :
    cyy l = sAA l - sA l * sA l / (l.length : Rat) := by
  unfold cyy
  rw [csum2_mean _ (by rwa [ys_length]), p2_ys, p1_ys, ys_length]

theorem sse_expand (a b : Rat) (l : List (Rat × Rat)) :
    sum ((residualsOf a b l).map fun e => e * e)
      = sAA l - 2 * a * sA l - 2 * b * sAB l + (l.length : Rat) * a * a + 2 * a * b * sB l + b * b * sBB l := by
  unfold residualsOf sAA sA sAB sB sBB ys xs
  induction l with
  | nil => simp
  | cons x l ih =>
    simp only [List.map_cons, List.map_map, sum_cons, List.length_cons, Function.comp_def] at *
    rw [ih]; push_cast; ring

theorem resid_sum (a b : Rat) (l : List (Rat × Rat)) :
    sum (residualsOf a b l) = sA l - (l.length : Rat) * a - b * sB l := by
  unfold residualsOf sA sB ys xs
  induction l with
  | nil => simp
  | cons x l ih =>
    simp only [List.map_cons, sum_cons, List.length_cons] at *
    rw [ih]; push_cast; ring

/-! ### the closed forms on `crossOf l` are the textbook quantities -/

theorem crossOf_den (l : List (Rat × Rat)) (hn : l.length ≠ 0) :
    (crossOf l).den = (l.length : Rat) * cxx l := by
  have hn' : (l.length : Rat) ≠ 0 := Nat.cast_ne_zero.2 hn
  rw [cxx_closed l hn]
  unfold Cross.den crossOf
  simp only
  field_simp

theorem degenerate_iff (l : List (Rat × Rat)) : (crossOf l).degenerate ↔ undefinedReg l := by
  unfold Cross.degenerate undefinedReg
  by_cases hn : l.length = 0
  · simp [crossOf, hn]
  · have hn' : (l.length : Rat) ≠ 0 := Nat.cast_ne_zero.2 hn
    rw [crossOf_den l hn]
    simp [hn, hn']

/-- **normal_eq_beta**: `(n Σxy - Σx Σy)/(n Σx² - (Σx)²) = Σ(x-x̄)(y-ȳ)/Σ(x-x̄)²` -/
theorem normal_eq_beta (l : List (Rat × Rat)) (h : ¬ undefinedReg l) :
    (crossOf l).beta = beta l := by
  unfold undefinedReg at h
  have hn : l.length ≠ 0 := fun h0 => h (Or.inl h0)
  have hx : cxx l ≠ 0 := fun h0 => h (Or.inr h0)
  have hn' : (l.length : Rat) ≠ 0 := Nat.cast_ne_zero.2 hn
  unfold Cross.beta Spec.beta
  rw [crossOf_den l hn, cross_sum_centered l hn]
  simp only
  field_simp

/-- **normal_eq_alpha**: `(Σy - β Σx)/n = ȳ - β x̄` -/
theorem normal_eq_alpha (l : List (Rat × Rat)) (h : ¬ undefinedReg l) :
    (crossOf l).alpha = alpha l := by
  have hn : l.length ≠ 0 := fun h0 => h (Or.inl h0)
  have hn' : (l.length : Rat) ≠ 0 := Nat.cast_ne_zero.2 hn
  unfold Cross.alpha Spec.alpha
  rw [normal_eq_beta l h, mean_ys, mean_xs]
  simp only
  field_simp

theorem normal_equations (l : List (Rat × Rat)) (h : ¬ undefinedReg l) :
    (l.length : Rat) * alpha l + beta l * sB l = sA l ∧
    alpha l * sB l + beta l * sBB l = sAB l := by
  have hn : l.length ≠ 0 := fun h0 => h (Or.inl h0)
  have hx : cxx l ≠ 0 := fun h0 => h (Or.inr h0)
  have hn' : (l.length : Rat) ≠ 0 := Nat.cast_ne_zero.2 hn
  have hb : beta l * cxx l = cxy l := by unfold Spec.beta; field_simp
  rw [cxx_closed l hn, cross_sum_centered l hn] at hb
  have ha : alpha l = sA l / (l.length : Rat) - beta l * (sB l / (l.length : Rat)) := by
    unfold Spec.alpha; rw [mean_ys, mean_xs]
  constructor
  · rw [ha]; field_simp; ring
  · rw [ha]; linear_combination hb

/-- **sse_identity**: under the normal equations `Σy² - αΣy - βΣxy = Σ(y - α - βx)²` -/
theorem sse_identity (l : List (Rat × Rat)) (h : ¬ undefinedReg l) :
    (crossOf l).sse = sse l := by
  obtain ⟨h1, h2⟩ := normal_equations l h
  unfold Cross.sse Spec.sse residuals
  rw [sse_expand, normal_eq_alpha l h, normal_eq_beta l h]
  simp only
  linear_combination (-(alpha l)) * h1 - (beta l) * h2

theorem line_sums (l : List (Rat × Rat)) (a b : Rat) (h : ∀ p ∈ l, p.1 = a + b * p.2) :
    sA l = (l.length : Rat) * a + b * sB l ∧ sAB l = a * sB l + b * sBB l := by
  unfold sA sB sAB sBB ys xs
  induction l with
  | nil => simp
  | cons p l ih =>
    have hp := h p (by simp)
    obtain ⟨h1, h2⟩ := ih (fun q hq => h q (by simp [hq]))
    simp only [List.map_cons, sum_cons, List.length_cons] at *
    rw [h1, h2, hp]
    constructor <;> (push_cast; ring)

theorem line_beta_alpha (l : List (Rat × Rat)) (a b : Rat) (h : ∀ p ∈ l, p.1 = a + b * p.2)
    (hd : ¬ undefinedReg l) : beta l = b ∧ alpha l = a := by
  have hn : l.length ≠ 0 := fun h0 => hd (Or.inl h0)
  have hx : cxx l ≠ 0 := fun h0 => hd (Or.inr h0)
  have hn' : (l.length : Rat) ≠ 0 := Nat.cast_ne_zero.2 hn
  obtain ⟨h1, h2⟩ := line_sums l a b h
  have hb : beta l = b := by
    unfold Spec.beta
    rw [div_eq_iff hx, cross_sum_centered l hn, cxx_closed l hn, h1, h2]
    field_simp
    ring
  refine ⟨hb, ?_⟩
  unfold Spec.alpha
  rw [hb, mean_ys, mean_xs, h1]
  field_simp
  ring

theorem line_residuals (l : List (Rat × Rat)) (a b : Rat) (h : ∀ p ∈ l, p.1 = a + b * p.2)
    (hd : ¬ undefinedReg l) : residuals l = l.map fun _ => 0 := by
  obtain ⟨hb, ha⟩ := line_beta_alpha l a b h hd
  unfold residuals residualsOf
  rw [hb, ha]
  apply List.map_congr_left
  intro p hp
  rw [h p hp]; ring

theorem sum_zeros (l : List α) : sum (l.map fun _ => (0 : Rat)) = 0 := by
  rw [sum_map_const]; ring

theorem line_sse (l : List (Rat × Rat)) (a b : Rat) (h : ∀ p ∈ l, p.1 = a + b * p.2)
    (hd : ¬ undefinedReg l) : Spec.sse l = 0 := by
  unfold Spec.sse
  rw [line_residuals l a b h hd, List.map_map]
  exact (sum_map_const (0 * 0) l).trans (by ring)

theorem undefined_of_length_le_one (l : List (Rat × Rat)) (h : l.length ≤ 1) : undefinedReg l := by
  match l, h with
  | [], _ => exact Or.inl rfl
  | [p], _ =>
    right
    simp [cxx, xs, mean, csum, sum]

theorem sum_sq_nonneg (f : α → Rat) (l : List α) : 0 ≤ sum (l.map fun x => f x * f x) := by
  induction l with
  | nil => simp
  | cons x l ih =>
    exact add_nonneg (mul_self_nonneg (f x)) ih

theorem sq_line_expand (u v : Rat) (l : List (Rat × Rat)) :
    sum (l.map fun p => (u + v * p.2) * (u + v * p.2))
      = (l.length : Rat) * u * u + 2 * u * v * sB l + v * v * sBB l := by
  unfold sB sBB xs
  induction l with
  | nil => simp
  | cons x l ih =>
    simp only [List.map_cons, sum_cons, List.length_cons] at *
    rw [ih]; push_cast; ring

end Tv.C04
