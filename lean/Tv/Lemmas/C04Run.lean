import Tv.Lemmas.C04Trend
import Tv.Lemmas.WindowIdx
import Tv.Lemmas.Driver
import Tv.Thm.C02
/-!
  Run-level lemmas for C04: the running sums are an additive abstraction of the FIFO of the
  window (`C02.run_applyCalls`), the two-series drivers hand the closures the zipped series, and the
  index-driven residual closures evolve their state like the value-driven cross closure and re-read,
  at `start.unwrap_or(0) ..= end`, exactly the window.
-/
namespace Tv.C04
open Tv Tv.Spec Tv.C04.Spec

theorem zip_getElem? (xs : List α) (ys : List β) (k : Nat) :
    (xs.zip ys)[k]? = match xs[k]?, ys[k]? with
      | some x, some y => some (x, y)
      | _, _ => none :=
  List.getElem?_zipWith

theorem zip_length (xs : List α) (ys : List β) (hlen : ys.length = xs.length) :
    (xs.zip ys).length = xs.length := by
  rw [List.length_zip, hlen, Nat.min_self]

theorem filterMap_eq_map' {f : α → Option β} {g : α → β} {l : List α}
    (h : ∀ a ∈ l, f a = some (g a)) : l.filterMap f = l.map g :=
  (List.filterMap_congr h).trans (congrFun List.filterMap_eq_map l)

theorem zipWith_map_map (F : γ → δ → ε) (f : α → γ) (g : α → δ) (l : List α) :
    List.zipWith F (l.map f) (l.map g) = l.map fun a => F (f a) (g a) := by
  rw [List.zipWith_map, List.zipWith_self]

theorem complete_append (q r : List Pair) : complete (q ++ r) = complete q ++ complete r := by
  unfold complete; rw [List.filterMap_append]

theorem crossOf_snoc (l : List (Rat × Rat)) (a b : Rat) :
    crossOf (l ++ [(a, b)]) = ⟨l.length + 1, sA l + a, sB l + b, sAB l + a * b, sAA l + a * a, sBB l + b * b⟩ := by
  unfold crossOf sA sB sAB sAA sBB ys xs
  simp only [List.map_append, sum_append, List.map_cons, List.map_nil, sum_cons, sum_nil,
    List.length_append, List.length_cons, List.length_nil, add_zero]

theorem crossOf_cons (l : List (Rat × Rat)) (a b : Rat) :
    crossOf ((a, b) :: l) = ⟨l.length + 1, a + sA l, b + sB l, a * b + sAB l, a * a + sAA l, b * b + sBB l⟩ := by
  unfold crossOf sA sB sAB sAA sBB ys xs
  simp only [List.map_cons, sum_cons, List.length_cons]

def CrossInv (s : Cross) (q : List Pair) : Prop := s = crossOf (complete q)

theorem cross_init : CrossInv Cross.zero [] := rfl

theorem cross_add (s : Cross) (q : List Pair) (v : Pair) (h : CrossInv s q) :
    CrossInv (s.add v) (q ++ [v]) := by
  unfold CrossInv at *
  subst h
  rw [complete_append]
  rcases v with ⟨_ | a, _ | b⟩
  case some.some =>
    rw [show complete [(some a, some b)] = [(a, b)] from rfl, crossOf_snoc]
    rfl
  -- an incomplete pair changes neither side: `complete [v]` is `[]`
  all_goals exact (congrArg crossOf (List.append_nil _)).symm

theorem cross_rem (s : Cross) (x : Pair) (q : List Pair) (h : CrossInv s (x :: q)) :
    CrossInv (s.remove x) q := by
  unfold CrossInv at *
  subst h
  rcases x with ⟨_ | a, _ | b⟩
  case some.some =>
    rw [show complete ((some a, some b) :: q) = (a, b) :: complete q from rfl, crossOf_cons]
    simp only [Cross.remove, crossOf, Nat.add_sub_cancel, add_sub_cancel_left]
  all_goals rfl

theorem callAt_eq_bind (zs : List α) (W i : Nat) : callAt zs W i = (startAt W i).bind (zs[·]?) := by
  unfold callAt startAt
  split <;> simp

/-- `rolling2_apply(_to)` and `rolling2_apply_idx(_to)` are the one-series drivers on the zipped series -/
theorem apply2Calls_eq_zip (sh : Shape) (xs : List α) (ys : List β) (w : Nat) (hlen : ys.length = xs.length) :
    apply2Calls sh xs ys w = applyCalls sh (xs.zip ys) w := by
  unfold apply2Calls applyCalls
  rw [zip_length xs ys hlen]
  refine congrArg (List.filterMap · _) (funext fun ⟨s, e⟩ => ?_)
  dsimp only
  rw [zip_getElem? xs ys e]
  cases xs[e]? <;> cases ys[e]? <;> try rfl
  exact congrArg (fun f => some (s.bind f, _)) (funext fun k => (zip_getElem? xs ys k).symm)

theorem idx2Calls_eq_zip (sh : Shape) (xs : List α) (ys : List β) (w : Nat) (hlen : ys.length = xs.length) :
    idx2Calls sh xs ys w = idxCalls sh (xs.zip ys) w := by
  unfold idx2Calls idxCalls
  rw [zip_length xs ys hlen]
  refine congrArg (List.filterMap · _) (funext fun ⟨s, e⟩ => ?_)
  dsimp only
  rw [zip_getElem? xs ys e]
  cases xs[e]? <;> cases ys[e]? <;> rfl

/-- every closure over the cross sums emits, at every position, `emit` of the sums of the
pairwise-complete observations of the window -/
theorem cross_run (emit : Cross → β) (sh : Shape) (xs ys : List (Option Rat)) (w : Nat) (hw : 1 ≤ w)
    (hlen : ys.length = xs.length) :
    (crossRoll emit).run Cross.zero (apply2Calls sh xs ys w)
      = (List.range xs.length).map fun i => emit (crossOf (complete (window (xs.zip ys) i w))) := by
  rw [apply2Calls_eq_zip sh xs ys w hlen, ← zip_length xs ys hlen]
  exact C02.run_applyCalls (crossRoll emit) CrossInv (fun q => emit (crossOf (complete q)))
    cross_init cross_add cross_rem (fun s q h => by unfold CrossInv at h; subst h; rfl) sh _ w hw

theorem cross_exact (emit : Cross → β) (F : List (Rat × Rat) → β) (h : ∀ l, emit (crossOf l) = F l)
    (sh : Shape) (xs ys : List (Option Rat)) (w : Nat) (hw : 1 ≤ w) (hlen : ys.length = xs.length) :
    (crossRoll emit).run Cross.zero (apply2Calls sh xs ys w)
      = (List.range xs.length).map fun i => F (complete (window (xs.zip ys) i w)) := by
  rw [cross_run emit sh xs ys w hw hlen]
  exact List.map_congr_left fun i _ => h _

def TrendInv (s : Trend) (q : List (Option Rat)) : Prop := s = trendOf (valid q)

theorem valid_snoc_some (q : List (Option Rat)) (v : Rat) : valid (q ++ [some v]) = valid q ++ [v] := by
  simp [valid]
theorem valid_snoc_none (q : List (Option Rat)) : valid (q ++ [none]) = valid q := by
  simp [valid]

theorem trendOf_snoc (l : List Rat) (v : Rat) :
    trendOf (l ++ [v]) = ⟨l.length + 1, sum l + v, wsum 0 l + ((l.length + 1 : Nat) : Rat) * v, p2 l + v * v⟩ := by
  unfold trendOf p2
  rw [wsum_append]
  simp [sum_append]

theorem trendOf_cons_remove (x : Rat) (l : List Rat) : (trendOf (x :: l)).remove (some x) = trendOf l := by
  unfold trendOf p2
  simp only [Trend.remove, wsum, wsum_succ, List.map_cons, sum_cons, List.length_cons]
  congr 1 <;> first | omega | (push_cast; ring)

theorem trend_add (s : Trend) (q : List (Option Rat)) (v : Option Rat) (h : TrendInv s q) :
    TrendInv (s.add v) (q ++ [v]) := by
  unfold TrendInv at *
  subst h
  cases v with
  | none => rw [valid_snoc_none]; rfl
  | some v => rw [valid_snoc_some, trendOf_snoc]; rfl

theorem trend_rem (s : Trend) (x : Option Rat) (q : List (Option Rat)) (h : TrendInv s (x :: q)) :
    TrendInv (s.remove x) q := by
  unfold TrendInv at *
  subst h
  cases x with
  | none => rfl
  | some x => exact trendOf_cons_remove x (valid q)

/-- a trend closure whose `emit` computes `F` from the sums of the valid values of the window, taken
in order with `t = 1..n`, emits `F` of them at every position -/
theorem trend_run (emit : Trend → Out) (F : List Rat → Out) (h : ∀ v, emit (trendOf v) = F v)
    (sh : Shape) (xs : List (Option Rat)) (w : Nat) (hw : 1 ≤ w) :
    (trendRoll emit).run Trend.zero (applyCalls sh xs w) = rolling1 F xs w :=
  C02.run_applyCalls (trendRoll emit) TrendInv (fun q => F (valid q))
    rfl trend_add trend_rem (fun s q hs => by unfold TrendInv at hs; subst hs; exact h _) sh xs w hw

/-- an index-driven closure is the zip of its state trajectory (a value-driven `Roll` emitting its
state) with the `(start?, end)` arguments -/
theorem idxRun_eq (rm : Nat → α) (add remove : σ → α → σ) (emit : σ → Option Nat → Nat → β)
    (s0 s : σ) (C : List (Option Nat × Nat × α)) :
    idxRun rm add remove emit s C
      = List.zipWith (fun st c => emit st c.1 c.2.1)
          (Roll.run ⟨s0, add, id, remove⟩ s (C.map fun c => (c.1.map rm, c.2.2))) C := by
  induction C generalizing s with
  | nil => rfl
  | cons c C ih =>
    obtain ⟨st, e, v⟩ := c
    simp only [idxRun, List.map_cons, Roll.run, Roll.step, List.zipWith_cons_cons, id]
    congr 1
    cases st with
    | none => simpa using ih (add s v)
    | some k => simpa using ih (remove (add s v) (rm k))

theorem run_init_irrelevant (r : Roll σ α β) (s0 s : σ) (cs : List (Option α × α)) :
    Roll.run { r with init := s0 } s cs = r.run s cs := by
  induction cs generalizing s with
  | nil => rfl
  | cons c cs ih => simp only [Roll.run, Roll.step]; rw [ih]

theorem ugetPair_eq (xs ys : List (Option Rat)) (hlen : ys.length = xs.length) (k : Nat) (hk : k < xs.length) :
    (xs.zip ys)[k]? = some (ugetPair xs ys k) := by
  rw [zip_getElem?]
  have h1 : xs[k]? = some xs[k] := List.getElem?_eq_getElem hk
  have h2 : ys[k]? = some (ys[k]'(by omega)) := List.getElem?_eq_getElem (by omega)
  rw [h1, h2]
  simp [ugetPair, List.getD_eq_getElem?_getD, h1, h2]

theorem idx2Calls_map (sh : Shape) (xs ys : List (Option Rat)) (w : Nat) (hw : 1 ≤ w)
    (hlen : ys.length = xs.length) :
    idx2Calls sh xs ys w = (List.range xs.length).map fun i =>
      (startAt (C02.effW sh w xs.length) i, i, ugetPair xs ys i) := by
  rw [idx2Calls_eq_zip sh xs ys w hlen, C02.idxCalls_spec sh _ w hw,
    zip_length xs ys hlen]
  exact filterMap_eq_map' fun i hi => by rw [ugetPair_eq xs ys hlen i (List.mem_range.1 hi)]; rfl

/-- the element re-read for removal is the one the value driver would have passed -/
theorem idx2Calls_toCalls (sh : Shape) (xs ys : List (Option Rat)) (w : Nat) (hw : 1 ≤ w)
    (hlen : ys.length = xs.length) :
    (idx2Calls sh xs ys w).map (fun c => (c.1.map (ugetPair xs ys), c.2.2))
      = apply2Calls sh xs ys w := by
  rw [apply2Calls_eq_zip sh xs ys w hlen, C02.applyCalls_spec sh _ w hw,
    zip_length xs ys hlen, idx2Calls_map sh xs ys w hw hlen, List.map_map]
  unfold callsFrom
  rw [← List.range_eq_range']
  symm
  apply filterMap_eq_map'
  intro i hi
  have hi' : i < xs.length := by simpa using hi
  rw [ugetPair_eq xs ys hlen i hi', callAt_eq_bind]
  simp only [Option.map_some, Function.comp_def]
  congr 2
  unfold startAt
  split
  · rename_i h
    simp only [Option.bind_some, Option.map_some]
    exact ugetPair_eq xs ys hlen _ (by omega)
  · rfl

/-- the positions `start.unwrap_or(0) ..= i` hold the window ending at `i` -/
theorem idxWindow_eq (xs ys : List (Option Rat)) (hlen : ys.length = xs.length) (W i : Nat) (hW : 1 ≤ W)
    (hi : i < xs.length) :
    idxWindow xs ys (startAt W i) i = window (xs.zip ys) i W := by
  have hz := zip_length xs ys hlen
  unfold idxWindow
  rw [C02.startAt_getD hW]
  exact (window_eq_map (xs.zip ys) (ugetPair xs ys) i W (hz ▸ hi)
    fun k hk => ugetPair_eq xs ys hlen k (hz ▸ hk)).symm

/-- the three residual closures emit, at every position, the aggregate of the least-squares
residuals of the pairwise-complete observations of the window -/
theorem resid_run (agg : List Rat → Out) (mp : Nat) (sh : Shape) (xs ys : List (Option Rat)) (w : Nat)
    (hw : 1 ≤ w) (hlen : ys.length = xs.length) :
    idxRun (ugetPair xs ys) Cross.add Cross.remove (emitResid agg mp xs ys) Cross.zero (idx2Calls sh xs ys w)
      = rolling2 (regx (fun l => agg (residuals l)) mp) xs ys w := by
  rw [idxRun_eq _ _ _ _ Cross.zero, idx2Calls_toCalls sh xs ys w hw hlen]
  have hrun := cross_run (fun s => s) sh xs ys w hw hlen
  have hr : Roll.run ⟨Cross.zero, Cross.add, id, Cross.remove⟩ Cross.zero (apply2Calls sh xs ys w)
      = (crossRoll (fun s => s)).run Cross.zero (apply2Calls sh xs ys w) := rfl
  rw [hr, hrun, idx2Calls_map sh xs ys w hw hlen, zipWith_map_map]
  apply List.map_congr_left
  intro i hi
  have hi' : i < xs.length := by simpa using hi
  have hz := zip_length xs ys hlen
  have hW1 := C02.effW_pos sh w xs.length hw (Nat.zero_lt_of_lt hi')
  simp only
  unfold emitResid
  rw [idxWindow_eq xs ys hlen _ i hW1 hi', ← hz, C02.window_effW sh _ w i (hz ▸ hi'), resids_eq]
  exact regx_of_cross (fun s => agg (residualsOf s.alpha s.beta _)) (fun l => agg (residuals l)) mp _
    fun hd => by rw [normal_eq_alpha _ hd, normal_eq_beta _ hd]; rfl

end Tv.C04
