import Tv.Lemmas.C03Run
import Tv.Spec.C03Order
import Mathlib.Algebra.Order.Field.Rat
/-!
  The from-scratch definitions on a window read back by position (`winL`): its non-null elements
  (`Spec.vals`), their number, and their `least` / `greatest`.
-/
namespace Tv.C03
open Tv

theorem vals_map (g : Nat → Option Rat) (l : List Nat) : Spec.vals (l.map g) = l.filterMap g := by
  simp [Spec.vals, List.filterMap_map]

theorem vals_length_winL (g : Nat → Option Rat) (lo hi : Nat) :
    (Spec.vals (winL g lo hi)).length = cnt g lo (hi+1) := by
  rw [winL, vals_map, List.length_filterMap_eq_countP]; rfl

theorem mem_vals_winL (g : Nat → Option Rat) (lo hi : Nat) (a : Rat) :
    a ∈ Spec.vals (winL g lo hi) ↔ ∃ j, lo ≤ j ∧ j ≤ hi ∧ g j = some a := by
  unfold Spec.vals winL
  simp only [List.mem_filterMap, List.mem_map, List.mem_range', id]
  constructor
  · rintro ⟨o, ⟨j, ⟨i, hi1, rfl⟩, rfl⟩, ho⟩
    exact ⟨lo + 1 * i, by omega, by omega, ho⟩
  · rintro ⟨j, h1, h2, h3⟩
    exact ⟨g j, ⟨j, ⟨j - lo, by omega, by omega⟩, rfl⟩, h3⟩

/-! ### least / greatest

`Spec.least` and `Spec.greatest` are one recursion, written for `≤` and for `≥` (`Extreme R E`: `E`
satisfies its two equations for `R`); what it computes is proved once, for a total order `R`. -/

structure Extreme (R : Rat → Rat → Prop) [DecidableRel R] (E : List Rat → Option Rat) : Prop where
  nil : E [] = none
  cons : ∀ x r, E (x :: r) = match E r with
    | none => some x
    | some m => some (if R x m then x else m)

theorem least_extreme : Extreme (· ≤ ·) Spec.least := ⟨rfl, fun _ _ => rfl⟩
theorem greatest_extreme : Extreme (· ≥ ·) Spec.greatest := ⟨rfl, fun _ _ => rfl⟩

section
variable {R : Rat → Rat → Prop} [DecidableRel R] [Std.Total R] [IsTrans Rat R]
  {E : List Rat → Option Rat} (hE : Extreme R E)
include hE

theorem extreme_spec (vs : List Rat) :
    match E vs with
    | none => vs = []
    | some m => m ∈ vs ∧ ∀ a ∈ vs, R m a := by
  induction vs with
  | nil => rw [hE.nil]
  | cons x r ih =>
    rw [hE.cons]
    cases h : E r with
    | none =>
      rw [h] at ih
      subst ih
      exact ⟨List.mem_singleton_self x, fun a ha => List.mem_singleton.mp ha ▸ Std.Refl.refl a⟩
    | some m =>
      rw [h] at ih
      obtain ⟨hm, hall⟩ := ih
      show (if R x m then x else m) ∈ x :: r ∧ ∀ a ∈ x :: r, R (if R x m then x else m) a
      by_cases hx : R x m
      · rw [if_pos hx]
        refine ⟨List.mem_cons_self, fun a ha => ?_⟩
        rcases List.mem_cons.mp ha with rfl | ha
        · exact Std.Refl.refl a
        · exact _root_.trans hx (hall a ha)
      · rw [if_neg hx]
        refine ⟨List.mem_cons_of_mem x hm, fun a ha => ?_⟩
        rcases List.mem_cons.mp ha with rfl | ha
        · exact (Std.Total.total m a).resolve_right hx
        · exact hall a ha

theorem extreme_char [Std.Antisymm R] (vs : List Rat) (m : Rat) (hm : m ∈ vs) (hall : ∀ a ∈ vs, R m a) :
    E vs = some m := by
  have := extreme_spec hE vs
  cases h : E vs with
  | none => rw [h] at this; subst this; cases hm
  | some m' =>
    rw [h] at this
    rw [Std.Antisymm.antisymm m' m (this.2 m hm) (hall m' this.1)]

end

theorem least_spec (vs : List Rat) :
    match Spec.least vs with
    | none => vs = []
    | some m => m ∈ vs ∧ ∀ a ∈ vs, m ≤ a :=
  extreme_spec least_extreme vs

theorem greatest_spec (vs : List Rat) :
    match Spec.greatest vs with
    | none => vs = []
    | some m => m ∈ vs ∧ ∀ a ∈ vs, a ≤ m :=
  extreme_spec greatest_extreme vs

theorem least_char (vs : List Rat) (m : Rat) (hm : m ∈ vs) (hall : ∀ a ∈ vs, m ≤ a) :
    Spec.least vs = some m :=
  extreme_char least_extreme vs m hm hall

theorem greatest_char (vs : List Rat) (m : Rat) (hm : m ∈ vs) (hall : ∀ a ∈ vs, a ≤ m) :
    Spec.greatest vs = some m :=
  extreme_char greatest_extreme vs m hm hall

end Tv.C03
