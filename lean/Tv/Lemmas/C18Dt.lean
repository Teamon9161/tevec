import Tv.Model.C18Parse
/-! C18 — lemmas about the `DateTime::parse` model (format list, unit conversion). -/
namespace Tv.C18

theorem firstFmt_eq_findSome? (c : Chrono) (fs : List String) :
    firstFmt c fs = fs.findSome? (tryFmt c) := by
  induction fs with
  | nil => rfl
  | cons f fs ih =>
    rw [firstFmt, List.findSome?_cons, ih]
    cases tryFmt c f <;> rfl

theorem firstFmt_some_iff (c : Chrono) (fs : List String) (x : Instant) :
    firstFmt c fs = some x ↔
      ∃ pre f post, fs = pre ++ f :: post ∧ (∀ g ∈ pre, tryFmt c g = none) ∧ tryFmt c f = some x := by
  rw [firstFmt_eq_findSome?, List.findSome?_eq_some_iff]
  simp only [and_comm]

theorem firstFmt_none_iff (c : Chrono) (fs : List String) :
    firstFmt c fs = none ↔ ∀ f ∈ fs, tryFmt c f = none := by
  rw [firstFmt_eq_findSome?, List.findSome?_eq_none_iff]

theorem toCr_ticks (u : DUnit) (ticks : Int) :
    (toCr u ticks).secs * u.perSec + ((toCr u ticks).nanos / (1000000000 / u.perSec) : Nat) = ticks := by
  have hp : (u.perSec : Int) ≠ 0 := by cases u <;> decide
  have hq : 0 < 1000000000 / u.perSec := by cases u <;> decide
  simp only [toCr]
  rw [Nat.mul_div_cancel _ hq, Int.toNat_of_nonneg (Int.emod_nonneg _ hp), Int.ediv_mul_add_emod]

theorem fromCr_toCr (v : Version) (u : DUnit) (ticks : Int) (h : inI64 ticks = true) :
    fromCr v u (toCr u ticks) = .ok ticks := by
  have ht := toCr_ticks u ticks
  cases u
  · simp [fromCr, toCr, DUnit.perSec]
  · simp only [fromCr, ht]
  · simp only [fromCr, ht]
  · simp only [fromCr, ht, h, if_true]

theorem fromCr_isPanic (v : Version) (u : DUnit) (x : Instant) :
    (fromCr v u x).isPanic =
      (decide (v = .pinned) && decide (u = .ns) && !inI64 (x.secs * 1000000000 + x.nanos)) := by
  cases u
  · cases v <;> rfl
  · cases v <;> rfl
  · cases v <;> rfl
  · simp only [fromCr, DUnit.perSec, Nat.div_self (by decide : 0 < 1000000000), Nat.div_one]
    cases inI64 (x.secs * ((1000000000 : Nat) : Int) + (x.nanos : Int)) <;> cases v <;> rfl

theorem dtParse_of_chosen {v : Version} {u : DUnit} {c : Chrono} {fmt : Option String} {x : Instant}
    (h : chosen c fmt = some x) : dtParse v u c fmt = fromCr v u x := by
  simp [dtParse, h]

theorem dtParse_of_chosen_none {v : Version} {u : DUnit} {c : Chrono} {fmt : Option String}
    (h : chosen c fmt = none) : dtParse v u c fmt = .err .parse := by
  simp [dtParse, h]

theorem dtParse_isPanic (v : Version) (u : DUnit) (c : Chrono) (fmt : Option String) :
    (dtParse v u c fmt).isPanic =
      match chosen c fmt with
      | some x => (fromCr v u x).isPanic
      | none => false := by
  unfold dtParse
  cases chosen c fmt <;> rfl

end Tv.C18
