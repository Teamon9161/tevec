import Tv.Spec.C09Len
import Mathlib.Algebra.Order.Field.Rat
import Mathlib.Algebra.Order.Field.Basic
import Mathlib.Algebra.Order.Ring.Cast
/-!
  C09 helper: the `ceil` formula of `range` (tea-core/src/linspace.rs) counts exactly the points
  `a, a+s, a+2s, ...` that lie strictly before `b` (the search of `rangeCount` in the specification).
-/
namespace Tv.C09

theorem count_lt_range (N k : Nat) : ((List.range N).filter (fun i => decide (i < k))).length = min N k := by
  induction N with
  | zero => rfl
  | succ n ih =>
    rw [List.range_succ, List.filter_append, List.length_append, ih]
    by_cases h : n < k
    · rw [List.filter_cons_of_pos (by simpa using h)]
      simp only [List.filter_nil, List.length_cons, List.length_nil]
      omega
    · rw [List.filter_cons_of_neg (by simpa using h)]
      simp only [List.filter_nil, List.length_nil]
      omega

theorem step_lt_iff (a b s : Int) (hs : s ≠ 0) (i : Nat) :
    (if s > 0 then decide (a + (i : Int) * s < b) else if s < 0 then decide (a + (i : Int) * s > b) else false)
      = decide (i < (((b : Rat) - a) / s).ceil.toNat) := by
  rcases lt_or_gt_of_ne hs with hneg | hpos
  · rw [if_neg (not_lt.2 hneg.le), if_pos hneg, decide_eq_decide, Int.lt_toNat, Rat.lt_ceil_iff,
      lt_div_iff_of_neg (by exact_mod_cast hneg), ← Int.cast_mul, ← Int.cast_sub, Int.cast_lt]
    omega
  · rw [if_pos hpos, decide_eq_decide, Int.lt_toNat, Rat.lt_ceil_iff, lt_div_iff₀ (by exact_mod_cast hpos),
      ← Int.cast_mul, ← Int.cast_sub, Int.cast_lt]
    omega

theorem range_count (a b s : Int) (hs : s ≠ 0) :
    ((((b : Rat) - a) / s).ceil).toNat = rangeCount a b s := by
  unfold rangeCount
  simp only [step_lt_iff a b s hs]
  rw [count_lt_range]
  -- the search range suffices: `q ≤ |q| = |b - a| / |s| ≤ |b - a|`
  have hb : (((b : Rat) - a) / s).ceil ≤ ((b - a).natAbs : Int) := by
    rw [Rat.ceil_le_iff, Int.natCast_natAbs, Int.cast_abs, Int.cast_sub]
    refine (le_abs_self _).trans ?_
    rw [abs_div]
    exact div_le_self (abs_nonneg _) (by exact_mod_cast Int.one_le_abs hs)
  omega

end Tv.C09
