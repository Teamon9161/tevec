import Mathlib.Algebra.Order.Field.Rat
import Tv.Model.C20
import Tv.Spec.C20
/-!
`vclip` (winsorize) is the element-wise map of `clipVal`, the clipping of one value; for ordered
bounds `clipVal` is the textbook `max lo (min x hi)`, from which its order facts follow.
-/
namespace Tv.C20
open Tv

/-- what `vclip(lower, upper)` does to one valid value -/
def clipVal (lo hi : Option Rat) (x : Rat) : Rat :=
  match lo, hi with
  | some l, some h => if x < l then l else if x > h then h else x
  | some l, none => if x < l then l else x
  | none, some h => if x > h then h else x
  | none, none => x

theorem vclip_eq_map (lo hi : Option Rat) (xs : List (Option Rat)) :
    vclip lo hi xs = xs.map (Option.map (clipVal lo hi)) := by
  unfold vclip
  cases lo <;> cases hi <;> simp only []
  · have : clipVal none none = id := by funext x; rfl
    rw [this]; simp
  all_goals
    apply List.map_congr_left
    intro v _
    cases v with
    | none => rfl
    | some x =>
      simp only [Option.map_some, clipVal, apply_ite some]

theorem vclip_getElem? (lo hi : Option Rat) (xs : List (Option Rat)) (i : Nat) :
    (vclip lo hi xs)[i]? = xs[i]?.map (Option.map (clipVal lo hi)) := by
  rw [vclip_eq_map, List.getElem?_map]

def Ordered (lo hi : Option Rat) : Prop := ∀ l h, lo = some l → hi = some h → l ≤ h

theorem Ordered.none_left (hi : Option Rat) : Ordered none hi := fun _ _ h => nomatch h

theorem Ordered.some_some {l h : Rat} (hlh : l ≤ h) : Ordered (some l) (some h) :=
  fun _ _ hl hh => Option.some.inj hl ▸ Option.some.inj hh ▸ hlh

theorem clipVal_inside (lo hi : Option Rat) (x : Rat)
    (hl : ∀ l, lo = some l → l ≤ x) (hh : ∀ h, hi = some h → x ≤ h) : clipVal lo hi x = x := by
  unfold clipVal
  cases lo with
  | none =>
    cases hi with
    | none => rfl
    | some h => simp only []; rw [if_neg (not_lt.mpr (hh h rfl))]
  | some l =>
    have h1 : ¬ x < l := not_lt.mpr (hl l rfl)
    cases hi with
    | none => simp only []; rw [if_neg h1]
    | some h => simp only []; rw [if_neg h1, if_neg (not_lt.mpr (hh h rfl))]

theorem clipVal_below (hi : Option Rat) (l x : Rat) (h : x < l) : clipVal (some l) hi x = l := by
  unfold clipVal
  cases hi <;> simp only [] <;> rw [if_pos h]

theorem clipVal_above (lo : Option Rat) (h x : Rat) (hx : h < x) (ho : Ordered lo (some h)) :
    clipVal lo (some h) x = h := by
  unfold clipVal
  cases lo with
  | none => simp only []; rw [if_pos hx]
  | some l =>
    have : ¬ x < l := not_lt.mpr (le_of_lt (lt_of_le_of_lt (ho l h rfl rfl) hx))
    simp only []; rw [if_neg this, if_pos hx]

theorem clipVal_eq_clip1 (lo hi : Option Rat) (x : Rat) (ho : Ordered lo hi) :
    clipVal lo hi x = Spec.clip1 lo hi x := by
  unfold clipVal Spec.clip1
  cases lo with
  | none =>
    cases hi with
    | none => rfl
    | some h =>
      simp only []
      by_cases hx : x > h
      · rw [if_pos hx, min_eq_right (le_of_lt hx)]
      · rw [if_neg hx, min_eq_left (not_lt.mp hx)]
  | some l =>
    cases hi with
    | none =>
      simp only []
      by_cases hx : x < l
      · rw [if_pos hx, max_eq_left (le_of_lt hx)]
      · rw [if_neg hx, max_eq_right (not_lt.mp hx)]
    | some h =>
      have hlh := ho l h rfl rfl
      simp only []
      by_cases hx : x < l
      · rw [if_pos hx, min_eq_left (le_trans (le_of_lt hx) hlh), max_eq_left (le_of_lt hx)]
      · rw [if_neg hx]
        by_cases hx2 : x > h
        · rw [if_pos hx2, min_eq_right (le_of_lt hx2), max_eq_right hlh]
        · rw [if_neg hx2, min_eq_left (not_lt.mp hx2), max_eq_right (not_lt.mp hx)]

theorem clip1_mono (lo hi : Option Rat) (x y : Rat) (h : x ≤ y) :
    Spec.clip1 lo hi x ≤ Spec.clip1 lo hi y := by
  unfold Spec.clip1
  cases lo <;> cases hi <;> simp only []
  · exact h
  · exact min_le_min_right _ h
  · exact max_le_max_left _ h
  · exact max_le_max_left _ (min_le_min_right _ h)

theorem clipVal_mono (lo hi : Option Rat) (x y : Rat) (ho : Ordered lo hi) (h : x ≤ y) :
    clipVal lo hi x ≤ clipVal lo hi y := by
  rw [clipVal_eq_clip1 lo hi x ho, clipVal_eq_clip1 lo hi y ho]
  exact clip1_mono lo hi x y h

theorem clipVal_within (lo hi : Option Rat) (x : Rat) (ho : Ordered lo hi) :
    (∀ l, lo = some l → l ≤ clipVal lo hi x) ∧ (∀ h, hi = some h → clipVal lo hi x ≤ h) := by
  rw [clipVal_eq_clip1 lo hi x ho]
  unfold Spec.clip1
  constructor
  · intro l hl; subst hl; exact le_max_left _ _
  · intro h hh; subst hh
    cases lo with
    | none => exact min_le_right _ _
    | some l => exact max_le (ho l h rfl rfl) (min_le_right _ _)

end Tv.C20
