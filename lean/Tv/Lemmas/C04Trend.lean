import Tv.Lemmas.C04Emit
/-!
  The time-trend family: the running sums of the trend closures are the cross sums of the
  pairs `(y_k, k)`, `k = 1..n`; `Σk = n(n+1)/2`, `Σk² = n(n+1)(2n+1)/6`.
-/
namespace Tv.C04
open Tv Tv.Spec Tv.C04.Spec

/-- `Σ_j (k + j) · y_j`, `j = 1..` -/
def wsum : Nat → List Rat → Rat
  | _, [] => 0
  | k, x :: r => ((k + 1 : Nat) : Rat) * x + wsum (k + 1) r

/-- the state a trend closure must hold when the valid values of its window are `v` -/
@[reducible] def trendOf (v : List Rat) : Trend := ⟨v.length, sum v, wsum 0 v, p2 v⟩

theorem wsum_append (k : Nat) (l : List Rat) (v : Rat) :
    wsum k (l ++ [v]) = wsum k l + ((k + l.length + 1 : Nat) : Rat) * v := by
  induction l generalizing k with
  | nil => simp [wsum]
  | cons x l ih =>
    simp only [List.cons_append, wsum, ih, List.length_cons]
    push_cast; ring

theorem wsum_succ (k : Nat) (l : List Rat) : wsum (k + 1) l = wsum k l + sum l := by
  induction l generalizing k with
  | nil => simp [wsum]
  | cons x l ih =>
    simp only [wsum, ih, sum_cons]
    push_cast; ring

@[simp] theorem timed_length (k : Nat) (v : List Rat) : (timed k v).length = v.length := by
  induction v generalizing k with
  | nil => rfl
  | cons x v ih => simp [timed, ih]

theorem sA_timed (k : Nat) (v : List Rat) : sA (timed k v) = sum v := by
  unfold sA ys
  induction v generalizing k with
  | nil => rfl
  | cons x v ih => simp only [timed, List.map_cons, sum_cons, ih]

theorem sAA_timed (k : Nat) (v : List Rat) : sAA (timed k v) = p2 v := by
  unfold sAA p2
  induction v generalizing k with
  | nil => rfl
  | cons x v ih => simp only [timed, List.map_cons, sum_cons, ih]

theorem sAB_timed (k : Nat) (v : List Rat) : sAB (timed k v) = wsum k v := by
  unfold sAB
  induction v generalizing k with
  | nil => rfl
  | cons x v ih => simp only [timed, List.map_cons, sum_cons, ih, wsum]; ring

/-- **sum_t** (shifted): `Σ_{j=1..n} (k + j) = n k + n(n+1)/2` -/
theorem sB_timed (k : Nat) (v : List Rat) :
    sB (timed k v) = (v.length : Rat) * k + (v.length : Rat) * ((v.length : Rat) + 1) / 2 := by
  unfold sB xs
  induction v generalizing k with
  | nil => simp [timed]
  | cons x v ih =>
    simp only [timed, List.map_cons, sum_cons, ih, List.length_cons]
    push_cast; ring

/-- **sum_tt** (shifted): `Σ_{j=1..n} (k + j)² = n k² + k n(n+1) + n(n+1)(2n+1)/6` -/
theorem sBB_timed (k : Nat) (v : List Rat) :
    sBB (timed k v) = (v.length : Rat) * k * k + (k : Rat) * (v.length : Rat) * ((v.length : Rat) + 1)
      + (v.length : Rat) * ((v.length : Rat) + 1) * (2 * (v.length : Rat) + 1) / 6 := by
  unfold sBB
  induction v generalizing k with
  | nil => simp [timed]
  | cons x v ih =>
    simp only [timed, List.map_cons, sum_cons, ih, List.length_cons]
    push_cast; ring

/-- **sum_t**: `Σ_{k=1..n} k = n(n+1)/2` -/
theorem sum_t (v : List Rat) : sB (timed 0 v) = (v.length : Rat) * ((v.length : Rat) + 1) / 2 := by
  rw [sB_timed]; push_cast; ring

/-- **sum_tt**: `Σ_{k=1..n} k² = n(n+1)(2n+1)/6` -/
theorem sum_tt (v : List Rat) :
    sBB (timed 0 v) = (v.length : Rat) * ((v.length : Rat) + 1) * (2 * (v.length : Rat) + 1) / 6 := by
  rw [sBB_timed]; push_cast; ring

/-- `(n*n + n) >> 1` is exact -/
theorem half_cast (n : Nat) : (((n * n + n) / 2 : Nat) : Rat) = (n : Rat) * ((n : Rat) + 1) / 2 := by
  obtain ⟨k, hk⟩ : 2 ∣ n * n + n := by
    rw [← Nat.mul_succ]; exact (Nat.even_mul_succ_self n).two_dvd
  have hc := congrArg (Nat.cast : Nat → Rat) hk
  push_cast at hc
  rw [hk, Nat.mul_div_cancel_left k (by norm_num : 0 < 2)]
  linear_combination (-1 / 2 : Rat) * hc

theorem trend_sumT (v : List Rat) : (trendOf v).sumT = (crossOf (timed 0 v)).sb := by
  show (((v.length * v.length + v.length) / 2 : Nat) : Rat) = sB (timed 0 v)
  rw [half_cast, sum_t]

theorem trend_sumTT (v : List Rat) : (trendOf v).sumTT = (crossOf (timed 0 v)).sbb := by
  show (((v.length * v.length + v.length) * (2 * v.length + 1) : Nat) : Rat) / 6 = sBB (timed 0 v)
  rw [sum_tt]; push_cast; ring

theorem trend_nSumTT (v : List Rat) :
    (trendOf v).nSumTT = (v.length : Rat) * (crossOf (timed 0 v)).sbb := by
  show (v.length : Rat) * (((v.length * v.length + v.length) * (2 * v.length + 1) : Nat) : Rat) / 6 = (v.length : Rat) * sBB (timed 0 v)
  rw [sum_tt]; push_cast; ring

theorem trend_divisor (v : List Rat) : (trendOf v).divisor = (crossOf (timed 0 v)).den := by
  unfold Trend.divisor Cross.den
  rw [trend_nSumTT, trend_sumT]
  simp

theorem trend_slope (v : List Rat) : (trendOf v).slope = (crossOf (timed 0 v)).beta := by
  unfold Trend.slope Cross.beta
  rw [trend_divisor, trend_sumT]
  simp only [timed_length, sAB_timed, sA_timed]
  congr 1; ring

theorem trend_intercept (v : List Rat) : (trendOf v).intercept = (crossOf (timed 0 v)).alpha := by
  unfold Trend.intercept Cross.alpha
  rw [trend_slope, trend_sumT]
  simp only [timed_length, sA_timed]
  congr 1; ring

theorem trend_degenerate_iff (v : List Rat) : (trendOf v).degenerate ↔ undefinedReg (timed 0 v) := by
  rw [← degenerate_iff]
  unfold Trend.degenerate Cross.degenerate
  rw [trend_divisor]
  simp

theorem trendEmit_spec (f : Trend → Rat) (g : List (Rat × Rat) → Rat) (mp : Nat) (v : List Rat)
    (h : ¬ undefinedReg (timed 0 v) → f (trendOf v) = g (timed 0 v)) :
    trendEmit f mp (trendOf v) = trend g mp v := by
  unfold trendEmit trend
  by_cases hm : v.length ≥ mp
  · simp only [if_pos hm]
    by_cases hd : undefinedReg (timed 0 v)
    · rw [if_pos ((trend_degenerate_iff v).mpr hd), if_pos hd]
    · rw [if_neg (fun hh => hd ((trend_degenerate_iff v).mp hh)), if_neg hd, h hd]
  · simp only [if_neg hm]

theorem trend_slope_spec (mp : Nat) (v : List Rat) :
    trendEmit Trend.slope mp (trendOf v) = trendSlope mp v :=
  trendEmit_spec _ _ mp v fun hd => by rw [trend_slope, normal_eq_beta _ hd]

theorem trend_intercept_spec (mp : Nat) (v : List Rat) :
    trendEmit Trend.intercept mp (trendOf v) = trendIntercept mp v :=
  trendEmit_spec _ _ mp v fun hd => by rw [trend_intercept, normal_eq_alpha _ hd]

theorem trend_fitted_spec (mp : Nat) (v : List Rat) :
    trendEmit Trend.fitted mp (trendOf v) = trendFitted mp v :=
  trendEmit_spec _ _ mp v fun hd => by
    unfold Trend.fitted
    rw [trend_slope, trend_intercept, normal_eq_beta _ hd, normal_eq_alpha _ hd, timed_length]
    ring

theorem trend_forecast_spec (mp : Nat) (v : List Rat) :
    trendEmit Trend.forecast mp (trendOf v) = trendForecast mp v :=
  trendEmit_spec _ _ mp v fun hd => by
    unfold Trend.forecast
    rw [trend_slope, trend_intercept, normal_eq_beta _ hd, normal_eq_alpha _ hd, timed_length]
    push_cast; ring

/-! The repaired `ts_vreg_resid_mean` computes its own divisor, slope and intercept; they are the
numbers the other four closures compute (`n * (X / 6)` for `n * X / 6`). -/

theorem Trend.divisor'_eq (s : Trend) : s.divisor' = s.divisor := by
  unfold Trend.divisor' Trend.divisor Trend.sumTT Trend.nSumTT
  rw [mul_div_assoc]

theorem Trend.beta'_eq (s : Trend) : s.beta' = s.slope := by
  unfold Trend.beta' Trend.slope; rw [Trend.divisor'_eq]

theorem Trend.alpha'_eq (s : Trend) : s.alpha' = s.intercept := by
  unfold Trend.alpha' Trend.intercept; rw [Trend.beta'_eq]

theorem emitMsr_eq (mp : Nat) (s : Trend) : emitMsr mp s = trendEmit Trend.msr mp s := by
  unfold emitMsr trendEmit Trend.degenerate; rw [Trend.divisor'_eq]

/-- the expanded squared-residual sum of the repaired `ts_vreg_resid_mean` is `SSE / n` -/
theorem trend_msr_spec (mp : Nat) (v : List Rat) : emitMsr mp (trendOf v) = trendMsr mp v := by
  rw [emitMsr_eq]
  refine trendEmit_spec _ _ mp v fun hd => ?_
  unfold Trend.msr Spec.sse residuals
  rw [sse_expand, Trend.alpha'_eq, Trend.beta'_eq, trend_intercept, trend_slope, normal_eq_alpha _ hd,
    normal_eq_beta _ hd, trend_sumT, trend_sumTT]
  simp only [timed_length, sAB_timed, sA_timed, sAA_timed]
  congr 1; ring

end Tv.C04
