import Tv.Model.C11
import Tv.Spec.C11
import Mathlib.Tactic.Ring
import Mathlib.Data.Rat.Defs
import Mathlib.Data.List.Induction
/-!
  C11 helper lemmas: every null-skipping fold of the model is a function of
  `valid xs` (the list of non-null elements): `foldl_valid`, for a step that ignores `none`, and
  `foldl_filterMap_eq`, the same for any `filterMap` (the pair loops). The running power sums are
  the sums `Σ x^k` over it.
-/
namespace Tv.C11
open Tv

@[simp] theorem valid_nil : valid ([] : List (Option α)) = [] := rfl
@[simp] theorem valid_cons_some (x : α) (xs : List (Option α)) : valid (some x :: xs) = x :: valid xs :=
  rfl
@[simp] theorem valid_cons_none (xs : List (Option α)) : valid (none :: xs) = valid xs := rfl

theorem valid_append (xs ys : List (Option α)) : valid (xs ++ ys) = valid xs ++ valid ys :=
  List.filterMap_append

theorem valid_filter_isSome (xs : List (Option α)) : valid (xs.filter (·.isSome)) = valid xs := by
  induction xs with
  | nil => rfl
  | cons x xs ih =>
    cases x with
    | none => exact ih
    | some a => exact congrArg (a :: ·) ih

theorem valid_perm {xs ys : List (Option α)} (h : xs.Perm ys) : (valid xs).Perm (valid ys) :=
  h.filterMap id

theorem valid_map_some (l : List α) : valid (l.map some) = l := by
  induction l with
  | nil => rfl
  | cons x l ih => exact congrArg (x :: ·) ih

theorem mem_valid {x : α} {xs : List (Option α)} : x ∈ valid xs ↔ some x ∈ xs :=
  List.mem_filterMap.trans ⟨fun ⟨_, h, e⟩ => e ▸ h, fun h => ⟨_, h, rfl⟩⟩

theorem valid_length_le (xs : List (Option α)) : (valid xs).length ≤ xs.length :=
  List.length_filterMap_le id xs

theorem foldl_filterMap_eq {α β σ : Type _} (g : α → Option β) (step : σ → α → σ)
    (step' : σ → β → σ)
    (h : ∀ s a, step s a = match g a with
      | none => s
      | some b => step' s b) (l : List α) (s : σ) :
    l.foldl step s = (l.filterMap g).foldl step' s := by
  induction l generalizing s with
  | nil => rfl
  | cons a l ih =>
    rw [List.foldl_cons, List.filterMap_cons, h]
    cases g a with
    | none => exact ih s
    | some b => exact ih _

theorem foldl_valid {α σ : Type _} (step : σ → Option α → σ) (hn : ∀ s, step s none = s)
    (xs : List (Option α)) (s : σ) :
    xs.foldl step s = (valid xs).foldl (fun s v => step s (some v)) s :=
  foldl_filterMap_eq id step _ (fun s a => by cases a with
    | none => exact hn s
    | some _ => rfl) xs s

/-- every fold of the model steps over nulls, so dropping them first changes nothing -/
theorem foldl_filter_isSome {α σ : Type _} (step : σ → Option α → σ) (hn : ∀ s, step s none = s)
    (xs : List (Option α)) (s : σ) :
    (xs.filter (·.isSome)).foldl step s = xs.foldl step s := by
  rw [foldl_valid step hn, foldl_valid step hn, valid_filter_isSome]

theorem vfold_eq (f : β → α → β) (init : β) (xs : List (Option α)) :
    vfold f init xs = (valid xs).foldl f init :=
  foldl_valid (vfoldStep f) (fun _ => rfl) xs init

theorem vfoldN_eq (f : β → α → β) (init : β) (xs : List (Option α)) :
    vfoldN f init xs = ((valid xs).length, (valid xs).foldl f init) := by
  unfold vfoldN
  rw [foldl_valid (vfoldNStep f) (fun _ => rfl)]
  induction valid xs using List.reverseRecOn with
  | nil => rfl
  | append_singleton l x ih => rw [List.foldl_append, ih, List.length_append, List.foldl_append]; rfl

theorem foldl_add_eq (l : List Rat) (a : Rat) : l.foldl (· + ·) a = a + Spec.sum l := by
  induction l generalizing a with
  | nil => exact (add_zero a).symm
  | cons x l ih => exact (ih (a + x)).trans (add_assoc a x _)

theorem sum_nil : Spec.sum [] = 0 := rfl
theorem sum_cons (x : Rat) (l : List Rat) : Spec.sum (x :: l) = x + Spec.sum l := rfl

theorem sum_append (l₁ l₂ : List Rat) : Spec.sum (l₁ ++ l₂) = Spec.sum l₁ + Spec.sum l₂ := by
  induction l₁ with
  | nil => exact (zero_add _).symm
  | cons x l ih => rw [List.cons_append, sum_cons, ih, sum_cons, add_assoc]

theorem sum_perm {l₁ l₂ : List Rat} (h : l₁.Perm l₂) : Spec.sum l₁ = Spec.sum l₂ := by
  induction h with
  | nil => rfl
  | cons x _ ih => rw [sum_cons, ih, sum_cons]
  | swap x y l => rw [sum_cons, sum_cons, sum_cons, sum_cons, add_left_comm]
  | trans _ _ ih₁ ih₂ => exact ih₁.trans ih₂

def psum (k : Nat) (l : List Rat) : Rat := Spec.sum (l.map (· ^ k))

theorem psum_nil (k : Nat) : psum k [] = 0 := rfl
theorem psum_cons (k : Nat) (x : Rat) (l : List Rat) : psum k (x :: l) = x ^ k + psum k l := rfl

theorem psum_zero (l : List Rat) : psum 0 l = l.length := by
  induction l with
  | nil => exact Nat.cast_zero.symm
  | cons x l ih => rw [psum_cons, ih, pow_zero, List.length_cons, Nat.cast_succ, add_comm]

theorem psum_one (l : List Rat) : psum 1 l = Spec.sum l := by
  induction l with
  | nil => rfl
  | cons x l ih => rw [psum_cons, ih, sum_cons, pow_one]

theorem psum_snoc (k : Nat) (l : List Rat) (x : Rat) : psum k (l ++ [x]) = psum k l + x ^ k := by
  unfold psum; rw [List.map_append, sum_append]; exact congrArg _ (add_zero _)

theorem psum_perm (k : Nat) {l₁ l₂ : List Rat} (h : l₁.Perm l₂) : psum k l₁ = psum k l₂ :=
  sum_perm (h.map _)

/-- the state of the `vapply_n` power-sum closures after the whole series -/
theorem pows_eq (xs : List (Option Rat)) :
    pows xs = ⟨(valid xs).length, psum 1 (valid xs), psum 2 (valid xs), psum 3 (valid xs),
      psum 4 (valid xs)⟩ := by
  unfold pows
  rw [foldl_valid Pow.step (fun _ => rfl)]
  induction valid xs using List.reverseRecOn with
  | nil => rfl
  | append_singleton l v ih =>
    rw [List.foldl_append, ih]
    simp only [List.length_append, psum_snoc, pow_one, sq]
    -- `v ^ 3`, `v ^ 4` into the products `v * v * v`, `(v * v) * (v * v)` that `Pow.step` forms
    rw [pow_succ, sq, pow_succ, pow_succ, sq, mul_assoc (v * v)]; rfl

theorem pows_filter (xs : List (Option Rat)) : pows (xs.filter (·.isSome)) = pows xs :=
  foldl_filter_isSome _ (fun _ => rfl) xs _

@[simp] theorem pairOf_some (a b : Rat) : Spec.pairOf (some a, some b) = some (a, b) := rfl
@[simp] theorem pairOf_none_left (b : Option Rat) : Spec.pairOf (none, b) = none := rfl
@[simp] theorem pairOf_none_right (a : Option Rat) : Spec.pairOf (a, none) = none := by
  cases a <;> rfl

/-- running pair sums of `vcov` / `vcorr_pearson` -/
theorem pairs_eq (xs ys : List (Option Rat)) :
    pairs xs ys =
      let l := Spec.pairsValid xs ys
      ⟨l.length, Spec.sum (l.map (·.1)), Spec.sum (l.map (·.2)),
        Spec.sum (l.map fun p => p.1 * p.2), Spec.sum (l.map fun p => p.1 * p.1),
        Spec.sum (l.map fun p => p.2 * p.2)⟩ := by
  unfold pairs Spec.pairsValid
  rw [foldl_filterMap_eq Spec.pairOf Pair.step (fun s p => Pair.step s (some p.1, some p.2))
    fun s p => by obtain ⟨_ | a, _ | b⟩ := p <;> rfl]
  induction List.filterMap Spec.pairOf (xs.zip ys) using List.reverseRecOn with
  | nil => rfl
  | append_singleton l p ih =>
    rw [List.foldl_append, ih]
    simp only [List.length_append, List.map_append, sum_append]
    simp only [List.map_cons, List.map_nil, sum_cons, sum_nil, add_zero]; rfl

end Tv.C11
