import Mathlib.Algebra.Order.Field.Rat
import Mathlib.Order.Monotone.Basic
import Tv.Model.C20
import Tv.Spec.C20
/-!
Spearman: the counting rank only looks at the order relation between values, so it is invariant under
strictly increasing maps.
-/
namespace Tv.C20
open Tv

theorem valid_map (f : Rat → Rat) (xs : List (Option Rat)) :
    valid (xs.map (Option.map f)) = (valid xs).map f := by
  unfold valid
  induction xs with
  | nil => rfl
  | cons a t ih => cases a <;> simp [ih]

theorem rankOf_map (f : Rat → Rat) (hf : StrictMono f) (vs : List Rat) (v : Rat) :
    rankOf (vs.map f) (f v) = rankOf vs v := by
  unfold rankOf
  have h1 : ((vs.map f).filter (· < f v)).length = (vs.filter (· < v)).length := by
    rw [List.filter_map, List.length_map]
    congr 1
    apply List.filter_congr
    intro a _
    simp [Function.comp, hf.lt_iff_lt]
  have h2 : ((vs.map f).filter (· = f v)).length = (vs.filter (· = v)).length := by
    rw [List.filter_map, List.length_map]
    congr 1
    apply List.filter_congr
    intro a _
    simp [Function.comp, hf.injective.eq_iff]
  rw [h1, h2]

theorem vrank_map (f : Rat → Rat) (hf : StrictMono f) (xs : List (Option Rat)) :
    vrank (xs.map (Option.map f)) = vrank xs := by
  unfold vrank
  simp only [valid_map, List.map_map]
  apply List.map_congr_left
  intro a _
  cases a with
  | none => rfl
  | some v => simp [rankOf_map f hf]

theorem vrank_length (xs : List (Option Rat)) : (vrank xs).length = xs.length := by
  simp [vrank]

end Tv.C20
