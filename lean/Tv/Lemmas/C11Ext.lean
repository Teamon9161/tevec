import Tv.Lemmas.C11Fold
import Mathlib.Order.Basic
import Mathlib.Algebra.Order.Field.Rat
/-!
  C11 helper lemmas: extrema and first arg-extrema, proved once for an arbitrary
  total order `R` on `Rat` (`R = (· ≤ ·)` gives min / argmin, `R = (· ≥ ·)` gives max / argmax).
-/
namespace Tv.C11
open Tv

section Ext
variable (R : Rat → Rat → Prop) [DecidableRel R]

/-- a total order, as a bare relation: what the min / max argument needs (`leR_good`, `geR_good`) -/
structure GoodOrder : Prop where
  total : ∀ a b, R a b ∨ R b a
  trans : ∀ a b c, R a b → R b c → R a c
  antisymm : ∀ a b, R a b → R b a → a = b

def IsExt (l : List Rat) (m : Rat) : Prop := m ∈ l ∧ ∀ x ∈ l, R m x

/-- the from-scratch definition -/
def extFind (l : List Rat) : Option Rat := l.find? fun m => l.all fun x => decide (R m x)

/-- `min_with` / `max_with` of number.rs for the order `R` (`minWith_eq`, `maxWith_eq`) -/
def extWith (self other : Rat) : Rat := if R self other then self else other

/-- the closure that `vmin` / `vmax` fold -/
def extStep (acc : Option Rat) (x : Rat) : Option Rat :=
  match acc with
  | none => some x
  | some v => some (extWith R v x)

/-- the loop body of `vargmin` / `vargmax` of agg.rs (`vargminStep_eq`, `vargmaxStep_eq`) -/
def argStep (s : ArgSt) (v : Option Rat) : ArgSt :=
  match v with
  | some v =>
    match s.best with
    | some m => if R m v then ⟨s.best, s.idx, s.cur + 1⟩ else ⟨some v, some s.cur, s.cur + 1⟩
    | none => ⟨some v, some s.cur, s.cur + 1⟩
  | none => ⟨s.best, s.idx, s.cur + 1⟩

variable {R}

omit [DecidableRel R] in
theorem IsExt.unique (g : GoodOrder R) {l : List Rat} {a b : Rat} (ha : IsExt R l a)
    (hb : IsExt R l b) : a = b :=
  g.antisymm a b (ha.2 b hb.1) (hb.2 a ha.1)

theorem extFind_eq_some_iff (g : GoodOrder R) (l : List Rat) (m : Rat) :
    extFind R l = some m ↔ IsExt R l m := by
  unfold extFind
  have fwd : ∀ m', l.find? (fun m => l.all fun x => decide (R m x)) = some m' → IsExt R l m' :=
    fun m' h => ⟨List.mem_of_find?_eq_some h, fun x hx => of_decide_eq_true
      (List.all_eq_true.mp (List.find?_some (p := fun m => l.all fun x => decide (R m x)) h) x hx)⟩
  refine ⟨fwd m, fun h => ?_⟩
  obtain ⟨m', hm'⟩ := Option.isSome_iff_exists.mp (List.find?_isSome
    (p := fun m => l.all fun x => decide (R m x)) |>.mpr ⟨m, h.1, List.all_eq_true.mpr fun x hx => decide_eq_true (h.2 x hx)⟩)
  rw [hm', (fwd m' hm').unique g h]

theorem extFind_nil : extFind R [] = none := rfl

omit [DecidableRel R] in
theorem GoodOrder.refl (g : GoodOrder R) (a : Rat) : R a a := (g.total a a).elim id id

omit [DecidableRel R] in
theorem IsExt.singleton (g : GoodOrder R) (v : Rat) : IsExt R [v] v :=
  ⟨List.mem_singleton_self v, fun _ hx => List.mem_singleton.mp hx ▸ g.refl v⟩

omit [DecidableRel R] in
theorem IsExt.snoc_keep {l : List Rat} {m v : Rat} (h : IsExt R l m) (hr : R m v) :
    IsExt R (l ++ [v]) m :=
  ⟨List.mem_append_left _ h.1, fun x hx =>
    (List.mem_append.mp hx).elim (h.2 x) fun hx => List.mem_singleton.mp hx ▸ hr⟩

omit [DecidableRel R] in
theorem IsExt.snoc_new (g : GoodOrder R) {l : List Rat} {m v : Rat} (h : IsExt R l m)
    (hr : ¬ R m v) : IsExt R (l ++ [v]) v :=
  ⟨List.mem_append_right _ (List.mem_singleton_self v), fun x hx =>
    (List.mem_append.mp hx).elim
      (fun hx => g.trans _ _ _ ((g.total m v).resolve_left hr) (h.2 x hx))
      fun hx => List.mem_singleton.mp hx ▸ g.refl v⟩

theorem foldl_extStep_inv (g : GoodOrder R) (l : List Rat) :
    match l.foldl (extStep R) none with
    | none => l = []
    | some m => IsExt R l m := by
  induction l using List.reverseRecOn with
  | nil => rfl
  | append_singleton p v ih =>
    rw [List.foldl_append]
    cases hacc : p.foldl (extStep R) none with
    | none => rw [hacc] at ih; rw [ih]; exact IsExt.singleton g v
    | some m =>
      rw [hacc] at ih
      show IsExt R (p ++ [v]) (extWith R m v)
      unfold extWith
      by_cases hr : R m v
      · rw [if_pos hr]; exact ih.snoc_keep hr
      · rw [if_neg hr]; exact ih.snoc_new g hr

theorem foldl_extStep_eq_extFind (g : GoodOrder R) (l : List Rat) :
    l.foldl (extStep R) none = extFind R l := by
  have h := foldl_extStep_inv g l
  cases hf : l.foldl (extStep R) none with
  | none => rw [hf] at h; rw [show l = [] from h]; rfl
  | some m => rw [hf] at h; exact ((extFind_eq_some_iff g l m).mpr h).symm

theorem extFind_eq_none_iff (g : GoodOrder R) (l : List Rat) : extFind R l = none ↔ l = [] := by
  refine ⟨fun h => ?_, fun h => h ▸ rfl⟩
  have hi := foldl_extStep_inv g l
  rw [foldl_extStep_eq_extFind g, h] at hi
  exact hi

theorem extFind_perm (g : GoodOrder R) {l₁ l₂ : List Rat} (h : l₁.Perm l₂) :
    extFind R l₁ = extFind R l₂ := by
  cases h2 : extFind R l₂ with
  | none =>
    have hl := (extFind_eq_none_iff g l₂).mp h2
    subst hl
    rw [h.eq_nil]; rfl
  | some m =>
    have := (extFind_eq_some_iff g _ _).mp h2
    exact (extFind_eq_some_iff g _ _).mpr
      ⟨h.mem_iff.mpr this.1, fun x hx => this.2 x (h.mem_iff.mp hx)⟩

theorem findIdx?_snoc_self (p : List (Option Rat)) (v : Rat) (h : v ∉ valid p) :
    (p ++ [some v]).findIdx? (· = some v) = some p.length := by
  have : p.findIdx? (· = some v) = none :=
    List.findIdx?_eq_none_iff.mpr fun x hx =>
      decide_eq_false fun hxv => h (mem_valid.mpr (hxv ▸ hx))
  rw [List.findIdx?_append, this]
  simp

theorem findIdx?_snoc_of_mem (p : List (Option Rat)) (m : Rat) (w : Option Rat)
    (h : m ∈ valid p) :
    (p ++ [w]).findIdx? (· = some m) = p.findIdx? (· = some m) := by
  rw [List.findIdx?_append, Option.or_of_isSome]
  rw [List.findIdx?_isSome, List.any_eq_true]
  exact ⟨some m, mem_valid.mp h, decide_eq_true rfl⟩

theorem argFold_state (g : GoodOrder R) (xs : List (Option Rat)) :
    xs.foldl (argStep R) ⟨none, none, 0⟩ =
      ⟨extFind R (valid xs), (extFind R (valid xs)).bind fun m => xs.findIdx? (· = some m),
        xs.length⟩ := by
  induction xs using List.reverseRecOn with
  | nil => rfl
  | append_singleton p w ih =>
    rw [List.foldl_append, ih, valid_append, List.length_append]
    cases w with
    | none =>
      rw [show valid [none] = ([] : List Rat) from rfl, List.append_nil]
      cases hE : extFind R (valid p) with
      | none => rfl
      | some m =>
        exact congrArg (ArgSt.mk (some m) · (p.length + 1))
          (findIdx?_snoc_of_mem p m none ((extFind_eq_some_iff g _ _).mp hE).1).symm
    | some v =>
      rw [show valid [some v] = [v] from rfl]
      cases hE : extFind R (valid p) with
      | none =>
        have hp := (extFind_eq_none_iff g _).mp hE
        rw [hp, List.nil_append, (extFind_eq_some_iff g _ _).mpr (IsExt.singleton g v)]
        exact congrArg (ArgSt.mk (some v) · (p.length + 1))
          (findIdx?_snoc_self p v (hp ▸ List.not_mem_nil)).symm
      | some m =>
        have hext := (extFind_eq_some_iff g _ _).mp hE
        by_cases hr : R m v
        · rw [(extFind_eq_some_iff g _ _).mpr (hext.snoc_keep hr)]
          simp only [List.foldl_cons, List.foldl_nil, argStep, if_pos hr]
          exact congrArg (ArgSt.mk (some m) · (p.length + 1))
            (findIdx?_snoc_of_mem p m (some v) hext.1).symm
        · rw [(extFind_eq_some_iff g _ _).mpr (hext.snoc_new g hr)]
          simp only [List.foldl_cons, List.foldl_nil, argStep, if_neg hr]
          exact congrArg (ArgSt.mk (some v) · (p.length + 1))
            (findIdx?_snoc_self p v fun hv => hr (hext.2 v hv)).symm

theorem argFold_eq (g : GoodOrder R) (xs : List (Option Rat)) :
    (xs.foldl (argStep R) ⟨none, none, 0⟩).idx =
      (extFind R (valid xs)).bind fun m => xs.findIdx? (· = some m) :=
  congrArg ArgSt.idx (argFold_state g xs)

theorem argFold_first (g : GoodOrder R) (xs : List (Option Rat)) (i : Nat)
    (h : (xs.foldl (argStep R) ⟨none, none, 0⟩).idx = some i) :
    ∃ m, xs[i]? = some (some m) ∧ (∀ v, some v ∈ xs → R m v) ∧
      ∀ j v, j < i → xs[j]? = some (some v) → ¬ R v m := by
  rw [argFold_eq g] at h
  obtain ⟨m, hm, h⟩ := Option.bind_eq_some_iff.mp h
  have hext := (extFind_eq_some_iff g _ _).mp hm
  obtain ⟨hlt, hget, hbefore⟩ := List.findIdx?_eq_some_iff_getElem.mp h
  refine ⟨m, ?_, fun v hv => hext.2 v (mem_valid.mpr hv), fun j v hj hjv => ?_⟩
  · rw [List.getElem?_eq_getElem hlt]; exact congrArg some (of_decide_eq_true hget)
  · have hjl : j < xs.length := Nat.lt_trans hj hlt
    rw [List.getElem?_eq_getElem hjl] at hjv
    have hv : xs[j] = some v := Option.some.inj hjv
    exact fun hvm => hbefore j hj (decide_eq_true (hv.trans (congrArg some
      (g.antisymm _ _ hvm (hext.2 v (mem_valid.mpr (hv ▸ List.getElem_mem hjl)))))))

theorem argFold_none_iff (g : GoodOrder R) (xs : List (Option Rat)) :
    (xs.foldl (argStep R) ⟨none, none, 0⟩).idx = none ↔ valid xs = [] := by
  rw [argFold_eq g]
  constructor
  · intro h
    by_contra hne
    obtain ⟨m, hm⟩ := Option.ne_none_iff_exists'.mp (mt (extFind_eq_none_iff g _).mp hne)
    rw [hm] at h
    have := List.findIdx?_eq_none_iff.mp h (some m)
      (mem_valid.mp ((extFind_eq_some_iff g _ _).mp hm).1)
    exact absurd (decide_eq_true rfl) (ne_true_of_eq_false this)
  · intro h; rw [h]; rfl

end Ext

def leR : Rat → Rat → Prop := fun a b => a ≤ b
def geR : Rat → Rat → Prop := fun a b => b ≤ a
instance : DecidableRel leR := fun a b => inferInstanceAs (Decidable (a ≤ b))
instance : DecidableRel geR := fun a b => inferInstanceAs (Decidable (b ≤ a))

theorem leR_good : GoodOrder leR :=
  ⟨fun a b => le_total a b, fun _ _ _ h1 h2 => le_trans h1 h2, fun _ _ h1 h2 => le_antisymm h1 h2⟩

theorem geR_good : GoodOrder geR :=
  ⟨fun a b => le_total b a, fun _ _ _ h1 h2 => le_trans h2 h1, fun _ _ h1 h2 => le_antisymm h2 h1⟩

theorem least_eq (l : List Rat) : Spec.least l = extFind leR l := rfl
theorem greatest_eq (l : List Rat) : Spec.greatest l = extFind geR l := rfl

theorem least_perm {l₁ l₂ : List Rat} (h : l₁.Perm l₂) : Spec.least l₁ = Spec.least l₂ :=
  extFind_perm leR_good h

theorem greatest_perm {l₁ l₂ : List Rat} (h : l₁.Perm l₂) : Spec.greatest l₁ = Spec.greatest l₂ :=
  extFind_perm geR_good h

theorem ite_lt_eq_ite_le (a b : Rat) (x y : α) :
    (if b < a then x else y) = if a ≤ b then y else x :=
  (if_congr not_le rfl rfl).symm.trans (ite_not _ _ _)

theorem minWith_eq (a b : Rat) : minWith a b = extWith leR a b := ite_lt_eq_ite_le a b b a

theorem maxWith_eq (a b : Rat) : maxWith a b = extWith geR a b := ite_lt_eq_ite_le b a b a

/-- folding a `min_with` / `max_with` from `None` yields the extreme element for its order -/
theorem foldl_extWith_eq_extFind {R : Rat → Rat → Prop} [DecidableRel R] (g : GoodOrder R) (w : Rat → Rat → Rat)
    (hw : ∀ a b, w a b = extWith R a b) (l : List Rat) :
    l.foldl (fun acc x => match acc with
      | none => some x
      | some v => some (w v x)) none = extFind R l := by
  rw [← foldl_extStep_eq_extFind g]
  congr 1; funext acc x
  cases acc with
  | none => rfl
  | some v => exact congrArg some (hw v x)

theorem vargminStep_eq : vargminStep = argStep leR := by
  funext s v
  cases v with
  | none => rfl
  | some v =>
    unfold vargminStep argStep
    cases s.best with
    | none => rfl
    | some m => exact ite_lt_eq_ite_le m v _ _

theorem vargmaxStep_eq : vargmaxStep = argStep geR := by
  funext s v
  cases v with
  | none => rfl
  | some v =>
    unfold vargmaxStep argStep
    cases s.best with
    | none => rfl
    | some m => exact ite_lt_eq_ite_le v m _ _

end Tv.C11
